/-
  C03 — an attempt's reported result reflects what the test process actually did.
  Property theorems only.
-/
import NextestModel.Model.Classify
import NextestModel.Gen.Tables
namespace NextestModel.C03
open NextestModel.Classify NextestModel.Dispatcher

/-- pass iff the process exited with status 0, nothing leaked, and no error occurred reading its pipes -/
theorem result_iff_pass (ws : WaitStatus) (e l : Bool) :
    classify ws e l = .pass ↔ (e = false ∧ ws = .exited 0 ∧ l = false) := by
  fun_cases classify ws e l <;> simp_all

/-- leak iff it exited with status 0 and its output was still held open past the leak timeout -/
theorem result_iff_leak (ws : WaitStatus) (e l : Bool) :
    classify ws e l = .leak ↔ (e = false ∧ ws = .exited 0 ∧ l = true) := by
  fun_cases classify ws e l <;> simp_all

/-- a process that ended any other way on its own is a failure, carrying the terminating signal when
    a signal ended it (and no signal when it exited with a non-zero code) -/
theorem result_fail_carries_signal (ws : WaitStatus) (l : Bool) :
    (∀ sig core, ws = .signaled sig core → classify ws false l = .fail (some sig) l) ∧
    (∀ c, c ≠ 0 → ws = .exited c → classify ws false l = .fail none l) := by
  constructor
  · rintro sig core rfl; rfl
  · rintro c hc rfl; cases c with
    | zero => exact absurd rfl hc
    | succ n => rfl

private theorem classify_ne_timeout (ws : WaitStatus) (e l : Bool) : classify ws e l ≠ .timeout := by
  fun_cases classify ws e l <;> nofun

private theorem classify_execFail_iff (ws : WaitStatus) (e l : Bool) : classify ws e l = .execFail ↔ e = true := by
  fun_cases classify ws e l <;> simp [*]

/-- the classifier itself never says "timeout": that verdict exists only on the path where nextest
    terminated the process for exceeding its time limit -/
theorem timeout_iff_terminated_by_nextest (spawned timedOut : Bool) (ws : WaitStatus) (e l : Bool) :
    attemptResult spawned timedOut ws e l = .timeout ↔ (spawned = true ∧ timedOut = true) := by
  unfold attemptResult
  cases spawned <;> cases timedOut <;> simp [classify_ne_timeout]

/-- execution failure iff the process could not be started — or (a documented classification the
    property text omits) an error occurred while reading its output / waiting for it -/
theorem execfail_iff_not_spawned_or_read_error (spawned timedOut : Bool) (ws : WaitStatus) (e l : Bool) :
    attemptResult spawned timedOut ws e l = .execFail ↔ (spawned = false ∨ (timedOut = false ∧ e = true)) := by
  unfold attemptResult
  cases spawned <;> cases timedOut <;> simp [classify_execFail_iff]

/-- an exit code stands in bits 8–15, above a low byte of zero -/
private theorem ofRaw_exited (c : Nat) (h : c < 256) : WaitStatus.ofRaw (c * 256) = .exited c := by
  simp [WaitStatus.ofRaw, Nat.mul_mod, Nat.mod_eq_of_lt h]

/-- a signal number stands in bits 0–6, the core-dump flag in bit 7 -/
private theorem ofRaw_signaled (s : Nat) (h0 : 0 < s) (h : s < 128) (core : Bool) :
    WaitStatus.ofRaw (s + if core then 128 else 0) = .signaled s core := by
  cases core <;> simp [WaitStatus.ofRaw, Nat.mod_eq_of_lt h, Nat.div_eq_of_lt h, Nat.add_div_right, Nat.ne_of_gt h0]

/-- the raw Linux wait status decodes as documented, for every exit code and every signal number -/
theorem wait_status_decoding :
    (∀ c : Fin 256, WaitStatus.ofRaw (c.val * 256) = .exited c.val) ∧
    (∀ s : Fin 127, ∀ core : Bool, WaitStatus.ofRaw (s.val + 1 + (if core then 128 else 0)) = .signaled (s.val + 1) core) :=
  ⟨fun c => ofRaw_exited c c.isLt, fun s => ofRaw_signaled (s + 1) (Nat.succ_pos _) (Nat.succ_lt_succ s.isLt)⟩

/-- a test's final result is that of its last attempt, and it is flaky iff that attempt passed after
    at least one earlier attempt -/
theorem flaky_iff (attempts : List Res) (last : Res) (h : attempts.getLast? = some last) :
    (describe attempts = .flaky ↔ (last.isSuccess = true ∧ attempts.length > 1)) ∧
    (describe attempts = .failure ↔ last.isSuccess = false) ∧
    (describe attempts = .success ↔ (last.isSuccess = true ∧ attempts.length = 1)) := by
  unfold describe
  rw [h]
  have hlen : 0 < attempts.length := List.length_pos_of_mem (List.mem_of_getLast? h)
  cases hs : last.isSuccess
  · simp [hs]
  · by_cases hl : 1 < attempts.length
    · have : attempts.length ≠ 1 := by omega
      simp [hs, hl, this]
    · have : attempts.length = 1 := by omega
      simp [hs, this]

/-- **a failure is reported with the signal that ended the test, under that signal's own name** (helpers.rs `signal_str`, as read
    on this run; the status line shows `SIG<name>` for a number in the table and the bare number otherwise): every number the
    table names is named as POSIX names it on every platform nextest runs on, and no number is listed twice -/
theorem signal_names_are_the_signals :
    (∀ p ∈ Gen.signalNames, portableSignalName p.1 = some p.2) ∧ (Gen.signalNames.map (·.1)).Nodup := by decide +kernel

/-- **each kind of result is reported under its own word** (displayer `status_str`, as read on this run): every result has exactly
    the word the property names for it — pass, leak, failure (with a leak, or with the signal), execution failure, timeout — and
    no two arms share a word, so a status line tells the outcomes apart -/
theorem every_result_has_its_own_word :
    (∀ r : Res, (statusKey r, statusWord r) ∈ Gen.statusWords) ∧
    (Gen.statusWords.map (·.1)).Nodup ∧ (Gen.statusWords.map (·.2)).Nodup := by
  refine ⟨fun r => ?_, by decide +kernel, by decide +kernel⟩
  -- by the clauses of `statusKey`, which are those of `statusWord`: each pair is a row of the table
  fun_cases statusKey r <;> simp only [statusWord, Gen.statusWords, List.mem_cons, true_or, or_true]

/-- … and so is every attempt on its `TRY k …` line (`short_status_str`, as read on this run) -/
theorem every_attempt_has_its_own_word :
    (∀ r : Res, (shortStatusKey r, shortStatusWord r) ∈ Gen.shortStatusWords) ∧
    (Gen.shortStatusWords.map (·.1)).Nodup ∧ (Gen.shortStatusWords.map (·.2)).Nodup := by
  refine ⟨fun r => ?_, by decide +kernel, by decide +kernel⟩
  fun_cases shortStatusKey r <;> simp only [shortStatusWord, Gen.shortStatusWords, List.mem_cons, true_or, or_true]

end NextestModel.C03
