/-
  C02 — "every selected test runs once to one final result": the liveness half on the dispatcher × units system with the retry
  policy made explicit (Model/System `BSys`: `left i` failed attempts of unit `i` may still be retried).  Property theorems only.
-/
import NextestModel.Lemmas.SystemTerm
namespace NextestModel.C02Term
open NextestModel.System NextestModel.Dispatcher

/-- the budgeted system adds nothing: each of its runs is a run of the plain system, so every invariant and every theorem about
    reachable states of `Model/System` holds of it -/
theorem budgeted_runs_are_runs (n : Nat) (mf : MaxFail) (left : Nat → Nat) (acts : List Act) (b : BSys)
    (h : brunActs ⟨Sys.init n mf, left⟩ acts = some b) : runActs (Sys.init n mf) acts = some b.s :=
  brun_is_run acts _ b h

/-- **every run ends** — cancelled or not: with each unit allowed finitely many retries and no further signal arriving, every
    sequence of steps of the dispatcher and the `N` units (dispatches, deliveries, attempt ends, request reads, expiring delays,
    in any order) is finite: the step relation is well-founded on the states the system can be in.  Measure: twice
    Σ (10·retries left + phase rank) plus the messages under way, then the unread requests. -/
theorem every_run_ends (N : Nat) : WellFounded (BRel N) := all_steps_wf N

/-- **… with every unit at its final result**: a state the system can be in from which no step is possible has each of the `N`
    units done (its `Finished` handled or on its way) or gone (start or retry refused) — no test is left waiting, running or
    between attempts.  (Which tests the scheduler ever dispatches is the scheduler's half: `uncancelled_complete_partial`, F7.) -/
theorem a_finished_run_has_every_unit_ended (n : Nat) (mf : MaxFail) (left : Nat → Nat) (acts : List Act) (b : BSys)
    (h : brunActs ⟨Sys.init n mf, left⟩ acts = some b) (N : Nat) (hstuck : ¬ ∃ b', BRel N b' b) :
    ∀ i, i < N → b.s.phase i = .done ∨ b.s.phase i = .gone := by
  obtain ⟨h1, h2, _⟩ := reach (brun_is_run acts _ b h)
  intro i hi
  apply Decidable.byContradiction
  intro hp
  -- a unit that has not ended has a step to take, or the dispatcher has
  obtain ⟨a, s', hx, hN, _, hb⟩ := unended_can_step b.s h1 h2 i N hi (not_or.mp hp)
  exact hstuck ⟨⟨s', b.left⟩, h1, h2, a, hx, hN, hb b.left⟩

-- not vacuous: one unit with one retry left fails twice; the second failure cannot be retried (`exitRetry` is not enabled)
example : (brunActs ⟨Sys.init 1 .all, fun _ => 1⟩ [.dispatch 0, .deliver, .exitRetry 0 (.fail none false) false, .deliver,
    .delayExpires 0 2 2, .deliver]).map (fun b => (b.s.phase 0, b.left 0)) = some (.running, 0) := by decide
example : (brunActs ⟨Sys.init 1 .all, fun _ => 1⟩ [.dispatch 0, .deliver, .exitRetry 0 (.fail none false) false, .deliver,
    .delayExpires 0 2 2, .deliver, .exitRetry 0 (.fail none false) false]).isNone = true := by decide

end NextestModel.C02Term
