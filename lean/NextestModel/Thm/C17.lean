/-
  C17 — summary counts, run statistics and the JUnit report all tell the same story.
  Property theorems only: the counters (Model/Dispatcher) and the JUnit aggregation (Model/Junit).
-/
import NextestModel.Lemmas.Dispatcher
import NextestModel.Lemmas.Junit
import NextestModel.Lemmas.Attempts
import NextestModel.Model.XmlText
namespace NextestModel.C17
open NextestModel.Dispatcher

/-- the documented relations between the counters -/
def Partitioned (s : Stats) : Prop :=
  s.passed + s.failed + s.execFailed + s.timedOut = s.finishedCount ∧
  s.flaky ≤ s.passed ∧ s.leaky ≤ s.passed ∧ s.passedSlow ≤ s.passed ∧ s.failedSlow ≤ s.failed ∧
  s.setupScriptsPassed + s.setupScriptsFailed + s.setupScriptsExecFailed + s.setupScriptsTimedOut =
    s.setupScriptsFinishedCount

private theorem partitioned_init (n : Nat) (mf : MaxFail) : Partitioned (DState.init n mf).stats := by
  simp [Partitioned, DState.init]

private theorem bump_le {a b : Nat} (h : a ≤ b) (c : Prop) [Decidable c] : (if c then a + 1 else a) ≤ b + 1 := by
  split <;> omega

private theorem bump_sum {a b c d t : Nat} (h : a + b + c + d = t) :
    a + 1 + b + c + d = t + 1 ∧ a + (b + 1) + c + d = t + 1 ∧ a + b + (c + 1) + d = t + 1 ∧ a + b + c + (d + 1) = t + 1 := by
  omega

private theorem onTest_partitioned (s : Stats) (h : Partitioned s) (r : Res) (slow : Bool) (n : Nat) :
    Partitioned (s.onTestFinished r slow n) := by
  obtain ⟨h1, h2, h3, h4, h5, h6⟩ := h
  cases r with
  | pass => exact ⟨(bump_sum h1).1, bump_le h2 _, Nat.le_succ_of_le h3, bump_le h4 _, h5, h6⟩
  | leak => exact ⟨(bump_sum h1).1, bump_le h2 _, Nat.succ_le_succ h3, bump_le h4 _, h5, h6⟩
  | fail => exact ⟨(bump_sum h1).2.1, h2, h3, h4, bump_le h5 _, h6⟩
  | execFail => exact ⟨(bump_sum h1).2.2.1, h2, h3, h4, h5, h6⟩
  | timeout => exact ⟨(bump_sum h1).2.2.2, h2, h3, h4, h5, h6⟩

private theorem onScript_partitioned (s : Stats) (h : Partitioned s) (r : Res) :
    Partitioned (s.onScriptFinished r) := by
  obtain ⟨h1, h2, h3, h4, h5, h6⟩ := h
  cases r with
  | pass | leak => exact ⟨h1, h2, h3, h4, h5, (bump_sum h6).1⟩
  | fail => exact ⟨h1, h2, h3, h4, h5, (bump_sum h6).2.1⟩
  | execFail => exact ⟨h1, h2, h3, h4, h5, (bump_sum h6).2.2.1⟩
  | timeout => exact ⟨h1, h2, h3, h4, h5, (bump_sum h6).2.2.2⟩

/-- **passed + failed + exec-failed + timed-out = finished, with flaky, leaky and slow as sub-counts**
    — preserved by every event the dispatcher can process, in every state. -/
theorem counter_partition_step (s : DState) (e : DEvent) (s' : DState) (o : Out)
    (hp : Partitioned s.stats) (h : step s e = .ok (s', o)) : Partitioned s'.stats := by
  rw [(step_handled h).stats]
  unfold statsEffect
  split
  · exact onTest_partitioned _ hp _ _ _
  · exact onScript_partitioned _ hp _
  · exact hp  -- a skipped test: none of these counters moves
  · exact hp

/-- …hence on every state reachable in any run, under every event order. -/
theorem counter_partition (n : Nat) (mf : MaxFail) (es : List DEvent) (s' : DState) (outs : List Out)
    (h : run (DState.init n mf) es = .ok (s', outs)) : Partitioned s'.stats :=
  run_invariant (P := fun s => Partitioned s.stats) counter_partition_step (partitioned_init n mf) h

/-- the `TestFinished` event carries exactly the statistics the run has at that point, and the
    full list of this test's attempts: the summary line, the statistics and the per-event
    `current_stats` are one and the same record -/
theorem finished_event_carries_stats (s : DState) (i : Nat) (r : Res) (slow : Bool) (st : DState)
    (resp : Response) (reply : Reply) (em : List Emitted)
    (h : stepCore s (.finished i r slow) = .ok (st, resp, reply, em)) :
    Emitted.testFinished i (s.past i ++ [r]) (s.running.filter (·.1 != i)).length s.cancel st.stats ∈ em := by
  rw [(stepCore_ok h).stats]
  obtain ⟨s1, em0, rfl, rfl, hx⟩ := stepCore_finished h
  split at hx
  · cases hx
    exact List.mem_append_left _ (List.mem_singleton.mpr rfl)
  · cases hx
    exact List.mem_singleton.mpr rfl

section junit
open NextestModel.Junit

/-- the name under which a `TestFinished` event of binary `b` appears -/
def finishedName (b : String) : Ev → Option String
  | .testFinished b' n _ _ _ => if b' = b then some n else none
  | _ => none

private theorem filterMap_congr {α β} (l : List α) (f g : α → Option β) (h : ∀ x ∈ l, f x = g x) :
    l.filterMap f = l.filterMap g := by
  induction l with
  | nil => rfl
  | cons a l ih => simp [List.filterMap_cons, h a (by simp), ih (fun x hx => h x (by simp [hx]))]

private theorem caseOfTest_name {n as s f c} (h : caseOfTest n as s f = some c) : c.name = n := by
  obtain ⟨last, hl⟩ := caseOfTest_last h
  cases caseOfTest_cases h hl <;> rfl

/-- **exactly one test case per finished test, in the suite named after its binary, in the order the tests finished**
    — for every event list (any mix of binaries, scripts, results, retries, other events); together with
    `junit_suites_distinct` (one suite per binary id / script id) -/
theorem junit_one_case_per_finished (evs : List Ev) (R : List Suite) (h : writeEvents [] evs = some R) (b : String) :
    (casesFor (.binary b) R).map (·.name) = evs.filterMap (finishedName b) := by
  have hne := (writeEvents_some h).1
  -- both sides become a `filterMap` over `evs`; they are compared event by event
  simp only [writeEvents_casesFor h, contribs, List.filter_filterMap, List.map_filterMap, casesFor, List.nil_append]
  refine filterMap_congr _ _ _ fun e he => ?_
  cases contribution_cases (hne e he) with
  | test b' n as s f c hc h =>
    rw [h]
    by_cases hb : b' = b <;> simp [finishedName, Option.filter, hb, caseOfTest_name hc]
  | script id r s f c _ h => simp [h, finishedName, Option.filter]
  | other => rfl

/-- one suite per key: a second event for the same binary (or script) never opens a second suite -/
theorem junit_suites_distinct (evs : List Ev) (R : List Suite) (h : writeEvents [] evs = some R) :
    (R.map (·.key)).Nodup :=
  (writeEvents_some h).2 ▸ addCases_nodup _ [] (by simp)

/-- the number of test cases in the whole report = the number of finished tests and finished setup scripts -/
theorem junit_total_cases (evs : List Ev) (R : List Suite) (h : writeEvents [] evs = some R) :
    (allCases R).length = (evs.filter fun e => match e with | .other => false | _ => true).length := by
  obtain ⟨hne, rfl⟩ := writeEvents_some h
  rw [(allCases_addCases _ _).length_eq]
  simp only [allCases, contribs, List.flatMap_nil, List.nil_append, List.length_map, List.length_filterMap_eq_countP,
    ← List.countP_eq_length_filter]
  refine List.countP_congr fun e he => ?_
  cases contribution_cases (hne e he) <;> rename_i h <;> simp [h]

/-- **a test case carries a `failure`/`error` element iff the test's final attempt did not succeed**
    (given what the attempt loop guarantees: every attempt before the last one failed) -/
theorem junit_status_iff (n : String) (as : List Res) (s f : Bool) (c : Case) (hwf : WFAttempts as)
    (h : caseOfTest n as s f = some c) (last : Res) (hl : as.getLast? = some last) :
    c.status.isSome = !last.isSuccess := by
  cases caseOfTest_cases h hl with
  | success hs | failure hs => simp [hs]

/-- **reruns**: a test that finally passed after `k` failed attempts has `k` rerun elements (serialised `flakyFailure` /
    `flakyError`, because the case is a success) carrying attempts `0 … k-1`, and the case itself carries the last attempt;
    a test that failed `k+1` times has `k` rerun elements (`rerunFailure` / `rerunError`) carrying attempts `1 … k`, and the
    case itself carries the first attempt.  Every attempt's output therefore has exactly one place in the report. -/
theorem junit_reruns (n : String) (as : List Res) (s f : Bool) (c : Case) (h : caseOfTest n as s f = some c) :
    c.reruns.length = as.length - 1 ∧
    (c.status = none → c.main = as.length - 1 ∧ c.reruns.map (·.attempt) = List.range' 0 (as.length - 1)) ∧
    (c.status ≠ none → c.main = 0 ∧ c.reruns.map (·.attempt) = List.range' 1 (as.length - 1)) := by
  obtain ⟨last, hl⟩ := caseOfTest_last h
  cases caseOfTest_cases h hl with
  | success _ hrr =>
    obtain ⟨h1, h2, -, -⟩ := rerunsFrom_spec hrr
    simp only [List.length_dropLast] at h1 h2
    exact ⟨h1, fun _ => ⟨rfl, h2⟩, fun hn => absurd rfl hn⟩
  | failure _ _ hrr =>
    obtain ⟨h1, h2, -, -⟩ := rerunsFrom_spec hrr
    simp only [List.length_cons, Nat.add_sub_cancel]
    refine ⟨h1, ?_, fun _ => ⟨trivial, h2⟩⟩
    intro hn
    cases hn

/-- **stored output exactly when the settings say so**: a failed attempt recorded as a rerun has its output stored iff
    store-failure-output; the test case itself iff store-success-output when the test passed (first time or finally), iff
    store-failure-output when it failed -/
theorem junit_store_rule (n : String) (as : List Res) (s f : Bool) (c : Case) (hwf : WFAttempts as)
    (h : caseOfTest n as s f = some c) (last : Res) (hl : as.getLast? = some last) :
    (∀ x ∈ c.reruns, x.stored = f) ∧ c.stored = (if last.isSuccess then s else f) := by
  cases caseOfTest_cases h hl with
  | success hs hrr => exact ⟨(rerunsFrom_spec hrr).2.2.1, by simp [storeRule, hs]⟩
  | failure hs _ hrr =>
    -- the first attempt of a failed test did not succeed: it is the last one, or an earlier (failed) one
    exact ⟨(rerunsFrom_spec hrr).2.2.1, by simp [storeRule, hs, hwf.all_failed hl hs _ List.mem_cons_self]⟩

/-- the aggregator never hits its `unreachable!` on the histories the executor produces -/
theorem junit_no_panic (evs : List Ev) (hwf : ∀ e ∈ evs, WFEv e) (S : List Suite) : ∃ R, writeEvents S evs = some R :=
  ⟨_, by rw [writeEvents_eq, if_pos (List.all_eq_true.mpr fun e he => contribution_isSome (hwf e he))]⟩

def isNonSuccess (c : Case) : Bool := c.status.isSome
def isFlaky (c : Case) : Bool := c.status.isNone && !c.reruns.isEmpty

private theorem caseOfTest_flags {n as s f c last} (h : caseOfTest n as s f = some c) (hl : as.getLast? = some last) :
    isNonSuccess c = !last.isSuccess ∧ isFlaky c = (last.isSuccess && decide (as.length > 1)) := by
  cases caseOfTest_cases h hl with
  | @success _ rr hs hrr =>
    have hlen : rr.length = as.length - 1 := by simpa using (rerunsFrom_spec hrr).1
    have hnone : rr = [] ↔ as.length ≤ 1 := by
      rw [← List.length_eq_zero_iff, hlen, Nat.sub_eq_zero_iff_le]
    have hrerun : (!rr.isEmpty) = decide (as.length > 1) := by
      rw [Bool.eq_iff_iff]
      simp [hnone]
    simp [isNonSuccess, isFlaky, hs, hrerun]
  | failure hs => simp [isNonSuccess, isFlaky, hs]

private theorem caseOfScript_flags {id r s f c} (h : caseOfScript id r s f = some c) :
    isNonSuccess c = !r.isSuccess ∧ isFlaky c = false := by
  cases caseOfScript_cases h with
  | success hs | failure hs => simp [isNonSuccess, isFlaky, hs]

private theorem views_gen (evs : List Ev) (hne : ∀ e ∈ evs, (contribution e).isSome) (s : Stats) :
    ((contribs evs).map (·.2)).length + s.finishedCount + s.setupScriptsFinishedCount =
      (statsOf s evs).finishedCount + (statsOf s evs).setupScriptsFinishedCount ∧
    ((contribs evs).map (·.2)).countP isNonSuccess + s.failedCount + s.failedSetupScriptCount =
      (statsOf s evs).failedCount + (statsOf s evs).failedSetupScriptCount ∧
    ((contribs evs).map (·.2)).countP isFlaky + s.flaky = (statsOf s evs).flaky := by
  induction evs generalizing s with
  | nil => simp [statsOf, contribs]
  | cons e es ih =>
    have ih := ih fun x hx => hne x (by simp [hx])
    cases contribution_cases (hne e (by simp)) with
    | test b n as sS sF c hc h =>
      obtain ⟨last, hl⟩ := caseOfTest_last hc
      obtain ⟨f1, f2⟩ := caseOfTest_flags hc hl
      have d := s.onTestFinished_counts last false as.length
      obtain ⟨i1, i2, i3⟩ := ih (s.onTestFinished last false as.length)
      simp only [contribs_cons_some h, List.map_cons, List.length_cons, List.countP_cons, statsOf, hl, f1, f2]
      -- the case's flags and the counters' increments are the same `if … then 1 else 0` terms: both sides sum the same
      rw [← i1, ← i2, ← i3, d.finishedCount, d.failedCount, d.flaky, d.setupScriptsFinishedCount, d.failedSetupScriptCount]
      simp +arith only [and_self]
    | script id r sS sF c hc h =>
      obtain ⟨f1, f2⟩ := caseOfScript_flags hc
      have d := s.onScriptFinished_counts r
      obtain ⟨i1, i2, i3⟩ := ih (s.onScriptFinished r)
      simp only [contribs_cons_some h, List.map_cons, List.length_cons, List.countP_cons, statsOf, f1, f2,
        Bool.false_eq_true, if_false]
      rw [← i1, ← i2, ← i3, d.finishedCount, d.failedCount, d.flaky, d.setupScriptsFinishedCount, d.failedSetupScriptCount]
      simp +arith only [and_self]
    | other h =>
      rw [contribs_cons_none h]
      exact ih s

/-- **the three views agree**: on every history the executor can produce, the JUnit report, folded from the same events as the
    run statistics (which the summary line prints), contains as many test cases as tests and setup scripts finished, as many
    `failure`/`error` cases as the statistics count failed (failed + exec-failed + timed-out, tests and scripts), and as many
    successful cases with `flakyFailure`/`flakyError` children as the statistics count flaky -/
theorem three_views_agree (evs : List Ev) (hwf : ∀ e ∈ evs, WFEv e) (R : List Suite) (h : writeEvents [] evs = some R) :
    let st := statsOf {} evs
    (allCases R).length = st.finishedCount + st.setupScriptsFinishedCount ∧
    (allCases R).countP isNonSuccess = st.failedCount + st.failedSetupScriptCount ∧
    (allCases R).countP isFlaky = st.flaky := by
  obtain ⟨hne, rfl⟩ := writeEvents_some h
  have hp := allCases_addCases (contribs evs) []
  rw [hp.length_eq, hp.countP_eq, hp.countP_eq]
  simpa [allCases, Stats.failedCount, Stats.failedSetupScriptCount] using views_gen evs hne {}

-- non-vacuity: two binaries, a flaky test, a failing test with a retry, a script; the report, its counters and the statistics
example : writeEvents [] [.scriptFinished "db" .pass true true, .testFinished "a::t" "flaky" [.fail none false, .pass] false true,
      .other, .testFinished "b::u" "bad" [.timeout, .fail (some 9) false] false true, .testFinished "a::t" "ok" [.leak] false true] =
    some [{ key := .script "db", cases := [{ name := "db", status := none, main := 0, stored := true, reruns := [] }] },
          { key := .binary "a::t", cases := [
              { name := "flaky", status := none, main := 1, stored := false, reruns := [{ kind := .failure, ty := "test failure", attempt := 0, stored := true }] },
              { name := "ok", status := none, main := 0, stored := false, reruns := [] }] },
          { key := .binary "b::u", cases := [
              { name := "bad", status := some (.failure, "test timeout"), main := 0, stored := true,
                reruns := [{ kind := .failure, ty := "test abort", attempt := 1, stored := true }] }] }] := by decide +kernel

/-- **the hypothesis of the JUnit theorems is what the executor produces**: the statuses a unit reports with `Finished` are
    non-empty and every one but the last is a failure — for every retry policy, every behaviour of the processes and every
    pattern of acknowledgements (`Model/Attempts` = the attempt loop of `run_test_instance`) -/
theorem finished_statuses_wellformed (p : Classify.Policy) (env : Attempts.Env) (evs : List Attempts.XEv)
    (h : Attempts.runTestInstance p env = some evs) (rs : List Res) (hrs : rs ∈ Attempts.finisheds evs) : WFAttempts rs := by
  have P := Attempts.run_post p env evs h
  rcases P.final with ⟨h0, _⟩ | ⟨h1, _, k, hk, _⟩
  · rw [h0] at hrs
    cases hrs
  · rw [h1, List.mem_singleton, List.nil_append] at hrs
    subst hrs
    refine ⟨fun e => ?_, fun r hr => ?_⟩
    · rw [List.map_eq_nil_iff.mp e] at hk
      cases hk
    · rw [← List.map_dropLast] at hr
      obtain ⟨k, hk, rfl⟩ := List.mem_map.mp hr
      exact P.failed k hk

end junit

section xmltext
open NextestModel.XmlText

private theorem xmlChar_iff (c : Char) :
    XmlChar c ↔ inRanges Gen.xmlStringStripped c.toNat = false ∧ Gen.junitNoncharsRemoved.contains c.toNat = false := by
  -- the stripped ranges are the C0 controls other than tab, LF and CR, the removed code points are U+FFFE and U+FFFF, and a
  -- `Char` is no surrogate: what is left of the scalar values is the `Char` production, interval by interval
  have hv : c.toNat < 0xD800 ∨ (0xDFFF < c.toNat ∧ c.toNat < 0x110000) := c.valid
  simp [XmlChar, inRanges, Gen.xmlStringStripped, Gen.junitNoncharsRemoved]
  omega

private theorem tested_eq_removed : Gen.junitNoncharsTested = Gen.junitNoncharsRemoved := by decide

/-- **"arbitrary test output keeps the XML well-formed"**: every character of every text nextest hands to the JUnit serializer
    (`xml_string`: message, description, system-out, system-err of a testcase or a rerun) is a `Char` of XML 1.0 §2.2 — whatever
    the output was, and whatever the ANSI stripper does as long as it only removes characters.  (What is left for the
    serializer is escaping `<`, `&`, `]]>`; that part is third-party and exercised, not modelled.) -/
theorem xml_text_valid (ansi : List Char → List Char) (hsub : ∀ l c, c ∈ ansi l → c ∈ l) (s : List Char) :
    ∀ c ∈ xmlString ansi s, XmlChar c := by
  intro c hc
  refine (xmlChar_iff c).mpr ?_
  simp only [xmlString] at hc
  split at hc <;> rename_i hn <;> unfold xmlStringNew at hc hn
  · -- second pass: `c` survived the control filter, and came through the stripper from the text without the nonchars
    have ⟨h1, h2⟩ := List.mem_filter.mp hc
    exact ⟨by simpa using h2, by simpa using (List.mem_filter.mp (hsub _ _ h1)).2⟩
  · -- no second pass: no tested nonchar is left, and the tested ones are the removed ones
    rw [tested_eq_removed] at hn
    exact ⟨by simpa using (List.mem_filter.mp hc).2, by simpa using fun h => hn (List.any_eq_true.mpr ⟨c, hc, h⟩)⟩

/-- nothing is added, and nothing that XML allows is lost when the output holds no escape sequence (the stripper is the
    identity): the stored text is the output without exactly the characters XML 1.0 forbids -/
theorem xml_text_keeps_valid (s : List Char) : xmlString id s = s.filter (fun c => decide (XmlChar c)) := by
  have key (c : Char) : decide (XmlChar c) =
      (!inRanges Gen.xmlStringStripped c.toNat && !Gen.junitNoncharsRemoved.contains c.toNat) := by
    rw [Bool.eq_iff_iff, decide_eq_true_eq, xmlChar_iff]
    simp
  simp only [xmlString, key]
  split <;> rename_i hn <;> simp only [xmlStringNew, id] at hn ⊢
  · simp only [List.filter_filter]
    exact List.filter_congr fun c _ => by cases inRanges Gen.xmlStringStripped c.toNat <;> simp
  · rw [tested_eq_removed] at hn
    refine List.filter_congr fun c hc => ?_
    cases h1 : inRanges Gen.xmlStringStripped c.toNat with
    | false => simpa using fun h => hn (List.any_eq_true.mpr ⟨c, List.mem_filter.mpr ⟨hc, by simp [h1]⟩, h⟩)
    | true => rfl

/-- every text setter of a testcase or a rerun passes its argument through `xml_string`, and no quick-junit text setter is
    called anywhere else in junit.rs (counted in the source on every run) -/
theorem every_text_goes_through_xml_string :
    Gen.junitSetterArms.1 = Gen.junitSetterArms.2 ∧ 0 < Gen.junitSetterArms.2 ∧ Gen.junitDirectSetters = [] := by decide

/-- **which captured text is stored where** (`set_execute_status_props`): system-out holds the captured standard output (or the
    combined capture) and never standard error, system-err holds the captured standard error and never standard output; a
    stream that does not exist is replaced by a fixed text (regenerated from junit.rs) — and whatever is stored is XML-valid -/
theorem stored_streams_attribution (k : OutKind) (o e : List Char) :
    ((storedStreams k o e).1 = o ∨ (storedStreams k o e).1 = Gen.junitStdoutNotCaptured.toList ∨
      (storedStreams k o e).1 = Gen.junitProcessFailedToStart.toList) ∧
    ((storedStreams k o e).2 = e ∨ (storedStreams k o e).2 = Gen.junitStderrNotCaptured.toList ∨
      (storedStreams k o e).2 = Gen.junitStdoutStderrCombined.toList ∨ (storedStreams k o e).2 = Gen.junitProcessFailedToStart.toList) ∧
    (k = .split → storedStreams k o e = (o, e)) ∧ (k = .combined → (storedStreams k o e).1 = o) := by
  cases k <;> simp [storedStreams]

theorem stored_streams_valid (ansi : List Char → List Char) (hsub : ∀ l c, c ∈ ansi l → c ∈ l) (k : OutKind) (o e : List Char) :
    (∀ c ∈ xmlString ansi (storedStreams k o e).1, XmlChar c) ∧ (∀ c ∈ xmlString ansi (storedStreams k o e).2, XmlChar c) :=
  ⟨xml_text_valid ansi hsub _, xml_text_valid ansi hsub _⟩

-- not vacuous: output with a C0 control, U+FFFE and U+FFFF, and legal characters around them
example : xmlString id ['a', '\x01', '\t', '\uFFFE', '<', '\uFFFF', '\uFFFD', '\n'] = ['a', '\t', '<', '\uFFFD', '\n'] := by decide +kernel

end xmltext

end NextestModel.C17
