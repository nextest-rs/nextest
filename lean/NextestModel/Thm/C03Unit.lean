/-
  C03 — "leak iff, in addition, its standard output or error was still held open by a descendant past the leak timeout", on the
  unit model (Model/Unit = `run_test_inner` + `detect_fd_leaks`).  Property theorems only.
-/
import NextestModel.Lemmas.Unit
import NextestModel.Gen.Tables
namespace NextestModel.C03Unit
open NextestModel.Unit

/-- **leaky iff the handles were still open when the leak timeout ran out**: a running attempt whose process exits, after which
    time passes in any number of steps `dts` until both pipes reach end of file — the unit ends, and it is marked leaky exactly
    when those steps add up to at least the leak timeout (measured from the exit; a stop / continue in between is C12's
    `stopped_time_excluded`); whether nextest had terminated the process for a timeout is not touched, and that verdict wins -/
theorem leak_iff_held_past_leak_timeout (c : Cfg) (u : U) (hp : u.phase = .running) (hl : u.leaked = false) (dts : List Nat) :
    let u' := (run c u (.childExit :: (dts.map .time ++ [.fdsDone]))).1
    u'.phase = .done ∧ (u'.leaked = true ↔ (dts ≠ [] ∧ c.leak ≤ dts.sum)) ∧ u'.timedOut = u.timedOut ∧
      u'.outcome = (if u.timedOut then .timeout else .fromExit (decide (dts ≠ [] ∧ c.leak ≤ dts.sum))) := by
  have hdue : nextDue { u with phase := .draining, ls := c.leak, lsPaused := false } = some c.leak := rfl
  simp only [run, step, hp, run_append]
  rw [run_time_ending c dts _ _ hdue rfl]
  -- either the leak timer fires, and ends the unit, or time just passes, and the end of file ends the unit
  by_cases hcase : dts ≠ [] ∧ c.leak ≤ dts.sum <;> simp [fire, elapse, U.outcome, hcase, hl]

/-- **the two ways `detect_fd_leaks` ends, as read from executor.rs on this run, are the model's**: when the leak timer fires the
    unit ends *leaky*; when both pipes reach end of file first it ends not leaky — `leaked` is exactly the loop's `break` value -/
theorem leak_verdict_arms_are_the_models (c : Cfg) (u : U) (hp : u.phase = .draining) (hl : u.leaked = false) :
    interpArm applyDrain guardDrain Gen.drainLeakTimerFiredArm u = fire c u ∧
    interpArm applyDrain guardDrain Gen.drainFdsDoneArm u = step c u .fdsDone := by
  simp only [interpArm_eq, Gen.drainLeakTimerFiredArm, Gen.drainFdsDoneArm, List.foldl_cons, List.foldl_nil]
  simp [applyDrain, guardDrain, fire, step, hp, hl]

/-- **a timeout verdict wins over the exit status, and nothing else is ever recorded during the loop**: in executor.rs, as read on
    this run, the attempt's result is `status.unwrap_or_else(|| create_execution_result(exit status, errors, leaked))` in the test
    loop and in the setup-script loop, and `status` is only ever set to `Timeout` (on Windows also to a job-object kill) — which is
    `U.outcome`: `if timedOut then timeout else fromExit leaked` (a process that exits 0 after nextest's SIGTERM has still timed out) -/
theorem timeout_verdict_wins : (∀ r ∈ Gen.verdictShape, r.2 = true) ∧
    (∀ u : U, u.outcome = if u.timedOut then Outcome.timeout else Outcome.fromExit u.leaked) :=
  ⟨by decide, fun _ => rfl⟩

-- not vacuous: leak timeout 200 ms; the pipes close 150 ms after the exit (not leaky), or 120 + 90 ms after it (leaky)
example : let c : Cfg := { period := 1000, terminateAfter := none, grace := 100, leak := 200 }
    ((run c (U.spawn c) [.childExit, .time 150, .fdsDone]).1.leaked, (run c (U.spawn c) [.childExit, .time 120, .time 90, .fdsDone]).1.leaked) = (false, true) := by
  decide

end NextestModel.C03Unit
