/-
  C11 — "nextest then exits on its own as soon as every running unit has exited or been killed": the liveness half, on the
  dispatcher × units system (Model/System).  Property theorems only.
-/
import NextestModel.Lemmas.SystemTerm
namespace NextestModel.C11Term
open NextestModel.System NextestModel.Dispatcher

/-- **a cancelled run cannot go on for ever**: once the run is being cancelled (a shutdown signal, a failure under fail-fast, a
    reporter error), and as long as no further signal arrives, every sequence of steps of the dispatcher and the `N` units —
    dispatches, deliveries, attempt ends, request reads, expiring retry delays, in any order — is finite: there is no infinite
    chain of `Rel N` steps.  (A retry is refused once the run is cancelled, so a unit only moves forward; the measure is
    `Lemmas/SystemTerm`'s.) -/
theorem cancelled_run_cannot_go_on_for_ever (N : Nat) : WellFounded (Rel N) := cancelled_steps_wf N

/-- **… and where it stops, every unit has ended**: in a reachable cancelled state from which none of those steps is possible, each
    of the `N` units is done or gone — nothing is left running, waiting for a reply, or sitting in a retry delay (deadlock
    freedom, `C02.no_unit_is_stuck`, here as `System.unended_can_step`, is what forbids stopping earlier).  Together: under any
    scheduling that keeps taking enabled steps, a cancelled run ends with all units ended; that tokio does keep taking them is the
    remaining assumption. -/
theorem cancelled_run_ends_with_every_unit_ended (n : Nat) (mf : MaxFail) (acts : List Act) (s : Sys)
    (h : runActs (Sys.init n mf) acts = some s) (hc : s.d.cancel.isSome = true) (N : Nat)
    (hstuck : ¬ ∃ s', Rel N s' s) : ∀ i, i < N → s.phase i = .done ∨ s.phase i = .gone := by
  obtain ⟨h1, h2, _⟩ := reach h
  intro i hi
  apply Decidable.byContradiction
  intro hp
  -- a unit that has not ended has a step to take, or the dispatcher has
  obtain ⟨a, s', hx, hN, hs, _⟩ := unended_can_step s h1 h2 i N hi (not_or.mp hp)
  exact hstuck ⟨s', hc, a, hx, hN, hs⟩

-- not vacuous: two units, a shutdown signal while both run; one ends, the other fails into a retry that is refused — both have
-- ended, and all that can still happen is that unit 0 drains the request it never read
example : (runActs (Sys.init 2 .all) [.dispatch 0, .deliver, .dispatch 1, .deliver, .external (.shutdown .term),
    .exitFinish 0 (.fail none false) false, .deliver, .exitRetry 1 (.fail none false) false, .deliver, .recv 1, .deliver]).map
      (fun s => (s.phase 0, s.phase 1, s.chan.length, s.d.cancel.isSome)) = some (.done, .gone, 0, true) := by decide

end NextestModel.C11Term
