/-
  C08 — concurrency never exceeds thread or group limits; dispatch follows priority.
  Property theorems only: invariants of the scheduler model for EVERY item list, weight / group
  assignment and EVERY order of completions.  The invariants' definitions (`GlobalOk`: accounted weight = Σ over alive
  futures ≤ test-threads; `GroupOk`: the same per group; `QueuesOk`; `RunningOk`) and the helper lemmas are in
  Lemmas/Sched.lean.
-/
import NextestModel.Lemmas.Sched
import NextestModel.Model.Priority
import NextestModel.Gen.Tables
namespace NextestModel.C08
open NextestModel.Sched
/-- **At every instant the sum of threads-required of the alive tests (each capped at the
    test-thread count) is at most the test-thread count** — preserved by every operation: the
    first poll, and any completion of any running future followed by the refill. -/
theorem global_weight_step (s : SState) (op : Op) (s' : SState) (started : List Running)
    (h : GlobalOk s) (hstep : s.step op = some (s', started)) : GlobalOk s' ∧ s'.maxW = s.maxW :=
  ⟨step_preserves GlobalOk.move GlobalOk.remove h hstep, (step_consts hstep).1⟩

/-- …hence in every reachable state, for every item list, every weight/group assignment and every
    completion order: Σ min(threads-required, T) over alive tests ≤ T. -/
theorem global_weight_inv (maxW : Nat) (gm : List Nat) (items : List Item) (ops : List Op) (s' : SState)
    (h : runOps (SState.init maxW gm items) ops = some s') : wsum s' ≤ maxW := by
  obtain ⟨⟨h1, h2⟩, hm⟩ := globalOk_run h
  rw [← h1, ← hm]; exact h2

/-- with `--no-capture` (test-threads forced to 1) at most one test runs at a time, whatever the weights ≥ 1 -/
theorem no_capture_serial (gm : List Nat) (items : List Item) (ops : List Op) (s' : SState)
    (hw : ∀ it ∈ items, 1 ≤ it.weight)
    (hall : ∀ r ∈ s'.running, 1 ≤ r.item.weight)
    (h : runOps (SState.init 1 gm items) ops = some s') : s'.running.length ≤ 1 :=
  alive_le_width hw (Nat.le_refl 1) h

/-- **For every test group, the sum of threads-required of its alive members (each capped at the group's max-threads) is at most
    max-threads** — preserved by every operation, together with the two bookkeeping invariants it needs -/
theorem group_weight_step (s : SState) (op : Op) (s' : SState) (started : List Running)
    (h : GroupOk s) (hq : QueuesOk s) (hr : RunningOk s) (hstep : s.step op = some (s', started)) :
    GroupOk s' ∧ QueuesOk s' :=
  have := step_preserves GroupInv.move GroupInv.remove ⟨h, hq, hr⟩ hstep
  ⟨this.ok, this.queues⟩

/-- …hence in every reachable state, for every item list, every weight/group assignment and every completion order, and for
    every test group `g`: Σ min(threads-required, max-threads of g) over the alive members of `g` ≤ max-threads of `g`. -/
theorem group_weight_inv (maxW : Nat) (gm : List Nat) (items : List Item) (ops : List Op) (s' : SState)
    (h : runOps (SState.init maxW gm items) ops = some s') (g : Nat) :
    gsum s' g ≤ gm.getD g 0 ∧ s'.groupMax = gm := by
  obtain ⟨h1, h2⟩ := (runOps_preserves GroupInv.move GroupInv.remove ops (groupInv_init maxW gm items) h).ok.2 g
  have hgm : s'.groupMax = gm := (runOps_consts ops h).2
  exact hgm ▸ ⟨h1 ▸ h2, rfl⟩

-- non-vacuity: group 0 (max-threads 2) with members of weight 3 (capped to 2) and 1; 4 test threads
example : ∃ s', runOps (SState.init 4 [2] [⟨0, 3, some 0⟩, ⟨1, 1, some 0⟩, ⟨2, 1, none⟩]) [.poll] = some s' ∧
    gsum s' 0 = 2 ∧ s'.running.length = 2 := ⟨_, rfl, by decide, by decide⟩

open NextestModel.Priority in
private theorem prioLe_trans (a b c : PTest) (h1 : prioLe a b = true) (h2 : prioLe b c = true) : prioLe a c = true :=
  decide_eq_true (Nat.le_trans (of_decide_eq_true h2) (of_decide_eq_true h1))

open NextestModel.Priority in
private theorem prioLe_total (a b : PTest) : (prioLe a b || prioLe b a) = true :=
  Bool.or_eq_true_iff.mpr ((Nat.le_total b.priority a.priority).imp decide_eq_true decide_eq_true)

open NextestModel.Priority in
/-- **Tests are dispatched in descending priority and, within a priority, in the order
    `iter_tests` yields them (binary id, then test name)**: the queue is a permutation of the test
    list (nothing dropped, nothing duplicated), sorted by descending priority, and stable — any two
    tests `a` before `b` in (binary id, name) order with `priority a ≥ priority b` stay in that order. -/
theorem priority_queue_order (l : List PTest) :
    (queue l).Perm l ∧ (queue l).Pairwise (fun a b => b.priority ≤ a.priority) ∧
    (∀ a b, List.Sublist [a, b] l → b.priority ≤ a.priority → List.Sublist [a, b] (queue l)) := by
  refine ⟨List.mergeSort_perm l prioLe, ?_, ?_⟩
  · exact (List.pairwise_mergeSort prioLe_trans prioLe_total l).imp of_decide_eq_true
  · intro a b hsub hp
    exact List.pair_sublist_mergeSort prioLe_trans prioLe_total (decide_eq_true hp) hsub

open NextestModel.Priority in
/-- bytes of an ASCII literal -/
private def bs (s : String) : List UInt8 := s.toList.map (fun c => c.toNat.toUInt8)

private theorem bs_ofList (l : List Char) : bs (String.ofList l) = l.map fun c => c.toNat.toUInt8 := by
  rw [bs, String.toList_ofList]

open NextestModel.Priority in
/-- **binary ids are ordered by their components, not as strings**: the package name decides first (`foo::integ` before
    `foo-bar`, although `-` sorts before `:`), then a bare package (its lib tests) before named binaries, a name without a kind
    before any kind/name pair, kinds and names bytewise -/
theorem binary_id_component_order :
    binLe (bs "foo::integ") (bs "foo-bar") = true ∧ binLe (bs "foo-bar") (bs "foo::integ") = false ∧
    binLe (bs "foo") (bs "foo::a") = true ∧ binLe (bs "foo::a") (bs "foo") = false ∧
    binLe (bs "foo::zz") (bs "foo::bench/a") = true ∧ binLe (bs "foo::bench/a") (bs "foo::zz") = false ∧
    binLe (bs "foo::bench/z") (bs "foo::bin/a") = true ∧ binLe (bs "foo::bin/a") (bs "foo::bin/b") = true ∧
    binLe (bs "foo::bin/b") (bs "foo-bar") = true := by
  -- `rw`, not `simp`: a literal unifies with `String.ofList _`; the kernel is spared decoding the literals from UTF-8
  rw [bs_ofList, bs_ofList, bs_ofList, bs_ofList, bs_ofList, bs_ofList, bs_ofList, bs_ofList, bs_ofList]
  decide +kernel

private theorem pairwise_mergeSort_decide {α} {r : α → α → Prop} [DecidableRel r]
    (trans : ∀ a b c, r a b → r b c → r a c) (total : ∀ a b, r a b ∨ r b a) (l : List α) :
    (l.mergeSort fun a b => decide (r a b)).Pairwise r :=
  (List.pairwise_mergeSort (by simpa using trans) (by simpa using total) l).imp (by simp)

open NextestModel.Priority in
/-- **The order in which tests enter the priority sort is (binary id by components, then test name)** — for every set of
    binaries (distinct ids, as keys of the `BTreeMap`) and test names: along `iter_tests`' order binary-id keys never decrease,
    and within one binary names never decrease.  Together with `priority_queue_order` (stable sort by descending priority)
    this is the documented dispatch order. -/
theorem iter_order_sorted (bins : List (List UInt8 × List (List UInt8))) (prioOf : List UInt8 → List UInt8 → Nat)
    (hd : (bins.map (·.1)).Nodup) :
    (iterOrder bins prioOf).Pairwise (fun a b => binKey a.binary ≤ binKey b.binary ∧ (a.binary = b.binary → a.name ≤ b.name)) := by
  unfold iterOrder
  rw [List.pairwise_flatMap]
  refine ⟨fun bn _ => ?_, ?_⟩
  · rw [List.pairwise_map]
    exact (pairwise_mergeSort_decide (r := (· ≤ ·)) (fun _ _ _ => List.le_trans) List.le_total bn.2).imp
      fun h => ⟨List.le_refl _, fun _ => h⟩
  · have hs := pairwise_mergeSort_decide (r := fun a b : List UInt8 × List (List UInt8) => binKey a.1 ≤ binKey b.1)
      (fun _ _ _ => List.le_trans) (fun _ _ => List.le_total _ _) bins
    have hne : (bins.mergeSort fun a b => binLe a.1 b.1).Pairwise (fun a b => a.1 ≠ b.1) :=
      List.pairwise_map.mp (((List.mergeSort_perm bins _).map _).nodup_iff.mpr hd)
    refine (hs.and hne).imp fun h x hx y hy => ?_
    obtain ⟨_, _, rfl⟩ := List.mem_map.mp hx
    obtain ⟨_, _, rfl⟩ := List.mem_map.mp hy
    exact ⟨h.1, fun e => absurd e h.2⟩

open NextestModel.Priority in
/-- **how wide the run is** (`TestRunnerBuilder::build`): without capture exactly one test at a time whatever is configured;
    otherwise the command line's thread count wins over the profile's -/
theorem run_width (cli : Option Nat) (profile n : Nat) :
    runTestThreads true cli profile = 1 ∧ runTestThreads false (some n) profile = n ∧ runTestThreads false none profile = profile :=
  ⟨rfl, rfl, rfl⟩

open NextestModel.Priority in
/-- **threads-required is resolved against the run as it is actually started**: `num-test-threads` is the run's width — the
    command line's when one is given, not the profile's —, `num-cpus` the CPU count, a number itself -/
theorem threads_required_resolution (ncpu : Nat) (noCapture : Bool) (cli : Option Nat) (profile k : Nat) :
    testWeight .numTestThreads ncpu noCapture cli profile = runTestThreads noCapture cli profile ∧
    testWeight .numCpus ncpu noCapture cli profile = ncpu ∧ testWeight (.count k) ncpu noCapture cli profile = k :=
  ⟨rfl, rfl, rfl⟩

/-- **a test that needs the whole run has it to itself**: in every reachable state of the scheduler — every test list, weight
    and group assignment, completion order — while a test whose threads-required is at least the run's width (e.g.
    `num-test-threads`) is alive, every other alive test holds no thread at all (its threads-required is 0) -/
theorem full_width_test_runs_alone (maxW : Nat) (gm : List Nat) (items : List Item) (ops : List Op) (s' : SState)
    (h : runOps (SState.init maxW gm items) ops = some s') (pre post : List Running) (r : Running)
    (hr : s'.running = pre ++ r :: post) (hw : maxW ≤ r.item.weight) :
    ∀ x ∈ pre ++ post, min x.item.weight maxW = 0 := by
  obtain ⟨⟨h1, h2⟩, hm⟩ := globalOk_run h
  rw [wsum, hr, hm, (List.perm_middle.map _).sum_nat, List.map_cons, List.sum_cons, gw, Nat.min_eq_right hw] at h1
  have hz : ((pre ++ post).map (gw maxW)).sum = 0 := by omega
  exact fun x hx => List.sum_eq_zero_iff_forall_eq_nat.mp hz _ (List.mem_map.mpr ⟨x, hx, rfl⟩)

/-- **the wiring in runner/imp.rs, as read on this run, is `runTestThreads` / `testWeight`**: the run is one test wide without
    capture, else as wide as the command line says, else as the profile says; a test is queued with its threads-required computed
    against *that* width (not the profile's, not its group's); the queue is that wide and a group as wide as its max-threads -/
theorem weight_wiring_is_the_models : ∀ r ∈ Gen.weightWiring, r.2 = true := by decide

end NextestModel.C08
