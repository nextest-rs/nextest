/-
  C01 — exit status is zero exactly when every selected test ultimately passed.
  Property theorems only.
-/
import NextestModel.Lemmas.Dispatcher
import NextestModel.Gen.Tables
namespace NextestModel.C01
open NextestModel.Dispatcher

private theorem exitCode_summarize (s : Stats) (nt : Option NoTests) :
    exitCode s.summarize nt =
      if s.failedSetupScriptCount > 0 ∨ s.setupScriptsInitialCount > s.setupScriptsFinishedCount then 105
      else if s.failedCount > 0 ∨ s.initialRunCount > s.finishedCount then 100
      else if s.finishedCount = 0 ∧ (nt = none ∨ nt = some .fail) then 4
      else 0 := by
  unfold Stats.summarize
  by_cases h1 : s.failedSetupScriptCount > 0
  · simp only [h1, if_true, true_or]
    rfl
  by_cases h2 : s.setupScriptsInitialCount > s.setupScriptsFinishedCount
  · simp only [h1, h2, if_true, if_false, or_true]
    rfl
  by_cases h3 : s.failedCount > 0
  · simp only [h1, h2, h3, if_true, if_false, true_or, or_self]
    rfl
  by_cases h4 : s.initialRunCount > s.finishedCount
  · simp only [h1, h2, h3, h4, if_true, if_false, or_true, or_self]
    rfl
  simp only [h1, h2, h3, h4, if_false, or_self, beq_iff_eq]
  by_cases h5 : s.finishedCount = 0
  · simp only [h5, if_true, true_and]
    cases nt with
    | none => rfl
    | some p => cases p <;> simp [exitCode]
  · simp only [h5, if_false, false_and]
    rfl

/-- `exec_run`'s exit status is 0 **iff** no setup script failed or was left unfinished, no test
    failed / timed out / could not be started, every test expected to run finished, and — when
    nothing ran at all — the `--no-tests` policy is `pass` or `warn`. -/
theorem exit_zero_iff (s : Stats) (nt : Option NoTests) :
    exitCode s.summarize nt = 0 ↔
      (s.failedSetupScriptCount = 0 ∧ s.setupScriptsInitialCount ≤ s.setupScriptsFinishedCount ∧
       s.failedCount = 0 ∧ s.initialRunCount ≤ s.finishedCount ∧
       (s.finishedCount ≠ 0 ∨ nt = some .pass ∨ nt = some .warn)) := by
  rw [exitCode_summarize]
  have hnt : (nt = some .pass ∨ nt = some .warn) ↔ ¬(nt = none ∨ nt = some .fail) := by
    cases nt with
    | none => simp
    | some p => cases p <;> simp
  rw [hnt]
  -- 105, 100 and 4 are not 0, and each comes with a condition that a conjunct on the right denies
  split
  · exact iff_of_false (by decide) fun ⟨a, b, _⟩ => by omega
  split
  · exact iff_of_false (by decide) fun ⟨_, _, c, d, _⟩ => by omega
  split
  · rename_i h
    exact iff_of_false (by decide) fun ⟨_, _, _, _, h'⟩ => h'.elim (· h.1) (· h.2)
  · rename_i h
    refine iff_of_true rfl ⟨by omega, by omega, by omega, by omega, ?_⟩
    exact Decidable.or_iff_not_imp_left.mpr fun h0 hn => h ⟨Decidable.not_not.mp h0, hn⟩

/-- The non-zero statuses, in priority order: 105 for a setup-script failure (or a run cancelled
    while scripts were outstanding), else 100 for test failure or cancellation, else 4 when no test
    ran under the default / `fail` policy. -/
theorem exit_codes (s : Stats) (nt : Option NoTests) :
    (s.failedSetupScriptCount > 0 ∨ s.setupScriptsInitialCount > s.setupScriptsFinishedCount →
        exitCode s.summarize nt = 105) ∧
    (¬(s.failedSetupScriptCount > 0 ∨ s.setupScriptsInitialCount > s.setupScriptsFinishedCount) →
      (s.failedCount > 0 ∨ s.initialRunCount > s.finishedCount) → exitCode s.summarize nt = 100) ∧
    (¬(s.failedSetupScriptCount > 0 ∨ s.setupScriptsInitialCount > s.setupScriptsFinishedCount) →
      ¬(s.failedCount > 0 ∨ s.initialRunCount > s.finishedCount) → s.finishedCount = 0 →
      (nt = none ∨ nt = some .fail) → exitCode s.summarize nt = 4) := by
  rw [exitCode_summarize]
  exact ⟨fun h => if_pos h, fun h1 h2 => by rw [if_neg h1, if_pos h2],
    fun h1 h2 h3 h4 => by rw [if_neg h1, if_neg h2, if_pos ⟨h3, h4⟩]⟩

def isFinish : DEvent → Bool
  | .finished .. => true
  | _ => false

def isFailedFinish : DEvent → Bool
  | .finished _ r _ => !r.isSuccess
  | _ => false

def isFailedScript : DEvent → Bool
  | .scriptFinished _ r => !r.isSuccess
  | _ => false

private theorem statsEffect_counts (s : DState) (e : DEvent) :
    (statsEffect s e).finishedCount = s.stats.finishedCount + (if isFinish e then 1 else 0) ∧
    (statsEffect s e).failedCount = s.stats.failedCount + (if isFailedFinish e then 1 else 0) ∧
    (statsEffect s e).failedSetupScriptCount = s.stats.failedSetupScriptCount + (if isFailedScript e then 1 else 0) ∧
    (statsEffect s e).initialRunCount = s.stats.initialRunCount ∧
    (statsEffect s e).setupScriptsInitialCount = s.stats.setupScriptsInitialCount := by
  cases e
  case finished i r sl =>
    have c := s.stats.onTestFinished_counts r sl (s.past i ++ [r]).length
    exact ⟨c.finishedCount, c.failedCount, c.failedSetupScriptCount, c.initialRunCount, c.setupScriptsInitialCount⟩
  case scriptFinished a r =>
    have c := s.stats.onScriptFinished_counts r
    exact ⟨c.finishedCount, c.failedCount, c.failedSetupScriptCount, c.initialRunCount, c.setupScriptsInitialCount⟩
  -- no other event touches them (`skipped` counts elsewhere)
  all_goals exact ⟨rfl, rfl, rfl, rfl, rfl⟩

/-- **The counters that decide the exit status are exactly the history**: after any run of the
    dispatcher (any order of events, any interleaving of cancellations), the number of finished
    tests is the number of `Finished` events processed, the failure count is the number of those
    whose final attempt was not a pass/leak, the script-failure count is the number of failing
    `SetupScriptFinished`, and the expected-to-run count is untouched. -/
theorem run_counts (s : DState) (es : List DEvent) (s' : DState) (outs : List Out)
    (h : run s es = .ok (s', outs)) :
    s'.stats.finishedCount = s.stats.finishedCount + (es.filter isFinish).length ∧
    s'.stats.failedCount = s.stats.failedCount + (es.filter isFailedFinish).length ∧
    s'.stats.failedSetupScriptCount = s.stats.failedSetupScriptCount + (es.filter isFailedScript).length ∧
    s'.stats.initialRunCount = s.stats.initialRunCount ∧
    s'.stats.setupScriptsInitialCount = s.stats.setupScriptsInitialCount := by
  induction es generalizing s outs with
  | nil =>
    cases h
    simp
  | cons e es ih =>
    obtain ⟨s1, o1, os, hstep, hrun, -⟩ := run_cons_ok h
    obtain ⟨i1, i2, i3, i4, i5⟩ := ih s1 os hrun
    obtain ⟨c1, c2, c3, c4, c5⟩ := statsEffect_counts s e
    have len (p : DEvent → Bool) : ((e :: es).filter p).length = (if p e then 1 else 0) + (es.filter p).length := by
      rw [← List.countP_eq_length_filter, ← List.countP_eq_length_filter, List.countP_cons, Nat.add_comm]
    rw [i1, i2, i3, i4, i5, (step_handled hstep).stats, c1, c2, c3, c4, c5, len, len, len]
    exact ⟨Nat.add_assoc .., Nat.add_assoc .., Nat.add_assoc .., rfl, rfl⟩

/-- **Exit status 0 ⇔ every selected test ultimately passed**, in terms of the history alone: for a
    run started with `n` selected tests (no setup scripts counted as outstanding — the production
    value), under every event order: the status is 0 iff no setup script failed, no `Finished`
    event carried a failing final attempt, at least `n` `Finished` events arrived (with C02: each
    selected test finishes at most once, so all of them did), and the selection was non-empty or the
    policy tolerates an empty one. -/
theorem exit_zero_iff_history (n : Nat) (mf : MaxFail) (es : List DEvent) (s' : DState) (outs : List Out)
    (nt : Option NoTests) (h : run (DState.init n mf) es = .ok (s', outs)) :
    exitCode s'.stats.summarize nt = 0 ↔
      ((es.filter isFailedScript).length = 0 ∧ (es.filter isFailedFinish).length = 0 ∧
       n ≤ (es.filter isFinish).length ∧
       ((es.filter isFinish).length ≠ 0 ∨ nt = some .pass ∨ nt = some .warn)) := by
  obtain ⟨h1, h2, h3, h4, h5⟩ := run_counts _ es s' outs h
  rw [exit_zero_iff, h1, h2, h3, h4, h5]
  -- at the start every counter is 0 and `n` tests are expected to run
  show (0 + _ = 0 ∧ 0 ≤ _ ∧ 0 + _ = 0 ∧ n ≤ 0 + _ ∧ (0 + _ ≠ 0 ∨ _)) ↔ _
  simp only [Nat.zero_add]
  exact ⟨fun ⟨a, _, b, c, d⟩ => ⟨a, b, c, d⟩, fun ⟨a, b, c, d⟩ => ⟨a, Nat.zero_le _, b, c, d⟩⟩

/-- flaky and leaky passes count as passes: a final `Pass` or `Leak` never adds to the failure count,
    however many failed attempts preceded it -/
theorem flaky_leaky_are_passes (s : Stats) (slow : Bool) (attempts : Nat) :
    (s.onTestFinished .pass slow attempts).failedCount = s.failedCount ∧
    (s.onTestFinished .leak slow attempts).failedCount = s.failedCount :=
  ⟨(s.onTestFinished_counts .pass slow attempts).failedCount, (s.onTestFinished_counts .leak slow attempts).failedCount⟩

example : exitCode ({ initialRunCount := 2, finishedCount := 2, passed := 2 } : Stats).summarize none = 0 := by decide
example : exitCode ({ initialRunCount := 2, finishedCount := 1, passed := 1 } : Stats).summarize none = 100 := by decide
example : exitCode ({ initialRunCount := 0 } : Stats).summarize none = 4 := by decide

/-- The model's `exitCode` agrees, on every `FinalRunStats` shape and every `--no-tests` policy, with
    the table regenerated from cargo-nextest/src/dispatch.rs, errors.rs and nextest-metadata's
    exit_codes.rs on this run; and the three constants are 4 / 100 / 105. -/
theorem exit_table_matches_source :
    Gen.execRunExit =
      [("Success", exitCode .success none),
       ("NoTestsRun/pass", exitCode .noTestsRun (some .pass)),
       ("NoTestsRun/warn", exitCode .noTestsRun (some .warn)),
       ("NoTestsRun/fail", exitCode .noTestsRun (some .fail)),
       ("NoTestsRun/default", exitCode .noTestsRun none),
       ("Cancelled|Failed/SetupScript", exitCode (.failed .setupScript) none),
       ("Cancelled|Failed/Test", exitCode (.failed (.test 1 0)) none)] ∧
    exitCode (.cancelled .setupScript) none = exitCode (.failed .setupScript) none ∧
    (∀ a b, exitCode (.cancelled (.test a b)) none = exitCode (.failed (.test 1 0)) none) ∧
    Gen.exitNoTestsRun = 4 ∧ Gen.exitTestRunFailed = 100 ∧ Gen.exitSetupScriptFailed = 105 :=
  -- `rfl` compares the table's string literals as they stand; `decide` would run `String.decEq` on them, character by character
  ⟨rfl, rfl, fun _ _ => rfl, rfl, rfl, rfl⟩

end NextestModel.C01
