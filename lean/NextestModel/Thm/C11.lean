/-
  C11 — shutdown signals reach every running unit, escalate to SIGKILL; nextest exits.
  Property theorems only: the unit's reaction to a shutdown request in each phase of its life
  (Model/Unit), which units a broadcast reaches (Model/Dispatcher; in every reachable state of
  Model/System), and the signal tables extracted from unix.rs on this run.  Delivery of `kill(-pgid, …)`
  to every member of the group, and that nothing survives SIGKILL, are the kernel's: observed end-to-end.
-/
import NextestModel.Lemmas.System
import NextestModel.Lemmas.Unit
import NextestModel.Model.Dispatcher
import NextestModel.Gen.Tables
namespace NextestModel.C11
open NextestModel.Unit

def sigName : Sig → String
  | .int => "SIGINT" | .term => "SIGTERM" | .hup => "SIGHUP" | .quit => "SIGQUIT" | .kill => "SIGKILL"
  | .tstp => "SIGTSTP" | .cont => "SIGCONT"

def shutName : Shut → String
  | .interrupt => "Interrupt" | .term => "Term" | .hangup => "Hangup" | .quit => "Quit"

/-- **The model's signal tables are the source's**: `shutdown_terminate_method`, `timeout_terminate_method`
    and `job_control_child` as extracted from unix.rs on this run, and every `libc::kill` there
    addresses the process group (`-pid`). -/
theorem signal_tables_match_source :
    Gen.shutdownSignalTable =
      ("ZeroGrace", sigName (shutdownSignal (.once .term) 0)) ::
        ([Shut.hangup, .term, .quit, .interrupt].map (fun e => (shutName e, sigName (shutdownSignal (.once e) 1)))) ++
        [("Twice", sigName (shutdownSignal .twice 1))]
    ∧ Gen.timeoutSignalTable = [("ZeroGrace", sigName (timeoutSignal 0)), ("Otherwise", sigName (timeoutSignal 1))]
    ∧ Gen.jobControlTable = [("Stop", "SIGTSTP"), ("Continue", "SIGCONT")]
    ∧ Gen.killSites.1 = Gen.killSites.2 :=
  -- `rfl` compares the string literals as they stand; `decide` would run `String.decEq` on them, character by character
  ⟨rfl, rfl, rfl, rfl⟩

/-- **the signal handler listens for every signal the property names, and turns each into the event whose name it bears**
    (signal.rs, unix, as registered and mapped on this run): SIGINT, SIGHUP, SIGTERM and SIGQUIT each become their own
    shutdown event, SIGTSTP and SIGCONT the job-control events — so with `shutdown_forwarded_same_signal` a test process
    receives the very signal nextest received -/
theorem shutdown_signals_are_handled :
    (∀ e : Shut, (sigName (shutSig e), "Shutdown/" ++ shutName e) ∈ Gen.signalHandlerTable) ∧
    ("SIGTSTP", "JobControl/Stop") ∈ Gen.signalHandlerTable ∧ ("SIGCONT", "JobControl/Continue") ∈ Gen.signalHandlerTable ∧
    -- no signal is registered twice
    (Gen.signalHandlerTable.map (·.1)).Nodup := by
  -- the table is searched by `simp`, which decides equations between string literals by a procedure of its own
  refine ⟨fun e => ?_, ?_, ?_, ?_⟩
  · cases e <;> simp [Gen.signalHandlerTable, sigName, shutSig, shutName]
  · simp [Gen.signalHandlerTable]
  · simp [Gen.signalHandlerTable]
  · simp [Gen.signalHandlerTable]

/-- **Every shutdown signal is forwarded as that same signal**: the four events map to four distinct
    signals, none of them SIGKILL, when the grace period is not zero -/
theorem shutdown_forwarded_same_signal (e : Shut) (g : Nat) (hg : g ≠ 0) :
    shutdownSignal (.once e) g = shutSig e ∧ shutSig e ≠ .kill ∧
      (∀ e', shutSig e' = shutSig e → e' = e) := by
  refine ⟨by simp [shutdownSignal, hg], by cases e <;> simp [shutSig], ?_⟩
  intro e' h; cases e <;> cases e' <;> simp_all [shutSig]

/-- **A running unit has the signal delivered to its process group and enters its grace period** -/
theorem running_unit_is_signalled (c : Cfg) (u : U) (e : Shut) (hph : u.phase = .running) (hg : c.grace ≠ 0) :
    onReq c u (.shutdown (.once e)) =
      ({ u with phase := .terminating .signal, gs := { remaining := c.grace }, ws := {} }, [.kill (shutSig e)]) := by
  obtain ⟨hs, hne, -⟩ := shutdown_forwarded_same_signal e c.grace hg
  simp [onReq, hph, beginTerminate, hs, hne]

/-- **… killed at once if the grace period is zero, or on the second signal** -/
theorem zero_grace_or_second_signal_kills (c : Cfg) (u : U) (sr : ShutReq) (hph : u.phase = .running)
    (h : c.grace = 0 ∨ sr = .twice) : (onReq c u (.shutdown sr)).2 = [.kill .kill] := by
  have hs : shutdownSignal sr c.grace = .kill := by
    rcases h with h | rfl
    · exact if_pos h
    · exact ite_self _
  simp [onReq, hph, beginTerminate, hs]

/-- **A unit already being terminated (for a timeout or an earlier signal) is killed immediately** by
    any further shutdown request -/
theorem terminating_unit_is_killed (c : Cfg) (u : U) (w : Why) (sr : ShutReq) (hph : u.phase = .terminating w) :
    (onReq c u (.shutdown sr)).2 = [.kill .kill] := by
  simp [onReq, hph]

/-- **A unit waiting out a retry delay leaves the delay at once** (its `RetryStarted` is then refused:
    C10.no_start_after_cancel) and starts nothing -/
theorem delayed_unit_leaves (c : Cfg) (u : U) (sr : ShutReq) (hph : u.phase = .delay) :
    (onReq c u (.shutdown sr)).1.phase = .done ∧ (onReq c u (.shutdown sr)).2 = [] := by
  simp [onReq, hph]

/-- **A unit draining leaked handles ignores the signal** (its process has exited) and ends within
    the leak timeout: shutdown and cancellation requests change nothing, and — unless nextest is stopped, which pauses the
    leak timer — `leak` ms later it is done -/
theorem draining_unit_ends (c : Cfg) (u : U) (sr : ShutReq) (hph : u.phase = .draining) :
    (onReq c u (.shutdown sr)).1 = u ∧ (onReq c u .otherCancel).1 = u ∧
    (u.lsPaused = false → (advance c u u.ls).1.phase = .done) := by
  refine ⟨by simp [onReq, hph], by simp [onReq, hph], ?_⟩
  intro hp
  have hdue : nextDue u = some u.ls := by simp [nextDue, hph, hp]
  rw [advance_of_le hdue (Nat.le_refl _)]
  simp [fire, hph]

/-- **A unit that has not exited when its grace period ends is killed**: in the grace period with its
    timer running, once the remaining grace has passed the next action is SIGKILL to the group, and
    the unit is back in the main loop waiting only for the process to be reaped -/
theorem kill_after_grace (c : Cfg) (u : U) (w : Why) (hph : u.phase = .terminating w) (hnp : u.gs.paused = false)
    (dt : Nat) (hdt : u.gs.remaining ≤ dt) :
    (advance c u dt).2 = [.kill .kill] ∧ (advance c u dt).1.phase = .running := by
  have hdue : nextDue u = some u.gs.remaining := by simp [nextDue, hph, Timer.due, hnp]
  rw [advance_of_le hdue hdt]
  simp [fire, hph]

/-- the grace period is the configured one, counted from the signal -/
theorem grace_is_configured (c : Cfg) (u : U) (e : Shut) (hph : u.phase = .running) (hg : c.grace ≠ 0) :
    (onReq c u (.shutdown (.once e))).1.gs = { remaining := c.grace, paused := false } := by
  rw [running_unit_is_signalled c u e hph hg]

open NextestModel.Dispatcher in
/-- **Every registered unit whose request channel is open receives the request, and no other**: the
    broadcast of a step's response goes to the running setup script and to exactly the registered
    tests -/
theorem broadcast_reaches_all_registered (s : DState) (r : Dispatcher.Req) (i : Nat) :
    (some i, r) ∈ (s.broadcast r).1 ↔ (s.running.any (·.1 == i) = true ∧ s.rxOpen.contains i = true) :=
  System.mem_broadcast s r i

open NextestModel.Dispatcher in
/-- the first shutdown signal is broadcast as itself, the second as the kill request -/
theorem shutdown_requests (s : DState) (sg : Dispatcher.Sig) (s' : DState) (resp : Response) (rep : Reply) (em : List Emitted)
    (h : stepCore s (.shutdown sg) = .ok (s', resp, rep, em)) :
    (s.signalCount = 0 → resp = .cancelSignal (.once sg) ∨ resp = .none) ∧
    (s.signalCount = 1 → resp = .cancelSignal .twice) := by
  rcases System.shutdown_response h with hr | ⟨h0, _, hr⟩
  · rw [hr, System.shutdownReqFor]
    exact ⟨fun h0 => Or.inl (by rw [h0]; rfl), fun h1 => by rw [h1]; rfl⟩
  · exact ⟨fun _ => Or.inr hr, fun h1 => by rw [h0] at h1; cases h1⟩

/-- the environment events that are bound to happen once a unit's process group has been killed (or the process exits by
    itself): the child is reaped, then its pipes reach end of file — or, if a descendant that left the group still holds them,
    the leak timer fires (a draining unit is continued first, if it was stopped); a unit waiting out a retry delay leaves it on
    the cancellation request -/
def escape (c : Cfg) (u : U) : List Ev :=
  match u.phase with
  | .running => [.childExit, .time c.leak]
  | .terminating _ => [.childExit, .childExit, .time c.leak]
  | .draining => [.req .cont, .time u.ls]
  | .delay => [.req .otherCancel]
  | .done => []

/-- **nextest exits once its units' processes have exited**: from every state of a unit, in every phase (running, being
    terminated, draining, waiting out a retry delay; stopped or not), the events that a killed process group is bound to produce
    lead the unit to `done` — no wait loop depends on anything but a process exit, an end of file, a bounded leak timer (resumed
    with the run), or a request the dispatcher has already sent.  (A unit in its retry delay leaves it on the cancellation request
    itself: `delayed_unit_leaves`.) -/
theorem unit_can_always_finish (c : Cfg) (u : U) : (run c u (escape c u)).1.phase = .done := by
  unfold escape
  cases hp : u.phase with
  | done => simp [run, hp]
  | delay => simp [run, step, onReq, hp]
  | draining =>
    simp only [run, step, onReq, hp]
    simp [advance, nextDue, fire]
  | running =>
    simp only [run, step, hp]
    simp [advance, nextDue, fire]
  | terminating w =>
    simp only [run, step, hp]
    simp [advance, nextDue, fire]

section system
open NextestModel.System NextestModel.Dispatcher

/-- **A shutdown signal reaches every running test** — in every state the dispatcher × units system can reach (any number of
    tests, any max-fail, EVERY interleaving of scheduling, attempt ends, retries, cancellations for other reasons, earlier
    signals …), when a shutdown signal arrives every unit whose attempt is in progress, or that is between attempts, gets the
    corresponding request in its mailbox: the signal itself the first time (`once sg`, forwarded as that signal:
    `shutdown_forwarded_same_signal`), "kill" the second time.  Two facts carry it: such a unit is registered with an open
    receiver (`Inv.reg`), and before the first signal the cancel state is below the signal level, so `begin_cancel` never
    swallows the request (`SigInv`). -/
theorem shutdown_reaches_every_running_unit (n : Nat) (mf : MaxFail) (acts : List System.Act) (s : Sys)
    (h : runActs (Sys.init n mf) acts = some s) (sg : Dispatcher.Sig) (s' : Sys)
    (hs : System.step s (.external (.shutdown sg)) = some s') (i : Nat)
    (hact : s.phase i = .running ∨ s.phase i = .delay ∨ s.phase i = .waitRetry) :
    Req.shutdown (shutdownReqFor s.d sg) ∈ s'.mail i ∧ s'.phase i = s.phase i := by
  obtain ⟨hinv, _, hsig⟩ := reach h
  cases step_iff.mp hs with
  | move hm => cases hm
  | @external _ d' o _ hd =>
    have := shutdown_broadcast s.d sg d' o hsig hd i (hinv.reg i hact)
    exact ⟨List.mem_append_right _ (mem_deliveredTo this), rfl⟩

/-- a third shutdown signal is the one event the dispatcher refuses by design ("Signaled 3 times"): the model has it, the
    property (pairs of signals) does not reach it -/
example : (runActs (Sys.init 1 .all) [.external (.shutdown .interrupt), .external (.shutdown .term), .external (.shutdown .term)]).isNone = true := by
  decide

end system

/-- **when the grace period runs out the whole process group is killed** — `terminate_child`'s timer arm, as read from unix.rs on
    this run (`kill-group` is `libc::kill(-pid, SIGKILL)`; a kill of the leader alone is not a statement the translator knows), is
    the model's clause for the grace timer firing; and when the process exits first nothing is signalled -/
theorem grace_expiry_arm_is_the_models (c : Cfg) (u : U) (w : Why) (hp : u.phase = .terminating w) :
    interpArm applyTerm guardTerm Gen.terminateChildGraceExpiredArm u = fire c u ∧
    interpArm applyTerm guardTerm Gen.terminateChildChildExitedArm u = step c u .childExit := by
  simp only [interpArm_eq, Gen.terminateChildGraceExpiredArm, Gen.terminateChildChildExitedArm, List.foldl_cons, List.foldl_nil]
  simp [applyTerm, guardTerm, fire, step, hp]

example : (run { period := 1000, terminateAfter := none, grace := 300, leak := 100 } (U.spawn { period := 1000, terminateAfter := none, grace := 300, leak := 100 })
    [.time 50, .req (.shutdown (.once .hangup)), .time 100, .req (.shutdown .twice)]).2 = [.kill .hup, .kill .kill] := by decide

/-- **a shutdown signal's cancellation is broadcast to every running unit as that shutdown request** (dispatcher.rs `run`, as
    translated on this run), unconditionally -/
theorem shutdown_is_always_broadcast (q : Dispatcher.ShutdownReq) :
    Dispatcher.responseRow (.cancelSignal q) = ("Cancel/Signal", [("shutdown", true)]) ∧
    ("Cancel/Signal", [("shutdown", true)]) ∈ Gen.responseBroadcasts :=
  ⟨rfl, by simp [Gen.responseBroadcasts]⟩

end NextestModel.C11
