/-
  C05 — filterset expressions denote the documented sets under the documented precedence.
  Property theorems only.
-/
import NextestModel.Lemmas.Reach
import NextestModel.Model.Syntax
import NextestModel.Lemmas.ParserCases
import NextestModel.Gen.Tables
namespace NextestModel.C05
open NextestModel NextestModel.Syntax

/-- the set denoted by a single predicate, as a membership test on a query -/
def denoteSet (g : Graph) (ro : RegexOracle) (dflt : Bool) (q : Query) : SetDef → Bool
  | .unary .test m _ => m.isMatch ro q.testName
  | .unary .binary m _ => m.isMatch ro q.binaryName
  | .unary .binaryId m _ => m.isMatch ro q.binaryId
  | .unary .kind m _ => m.isMatch ro q.kind
  | .unary .package m _ => (g.matching ro m).contains q.package
  | .unary .deps m _ => (g.depsOf ro m).contains q.package
  | .unary .rdeps m _ => (g.rdepsOf ro m).contains q.package
  | .platform p _ => q.platform == p
  | .default _ => dflt
  | .all => true
  | .none => false

/-- complement, intersection, difference (`a ∧ ¬b`), union; parentheses only group;
    the operator's spelling plays no role -/
def denote (g : Graph) (ro : RegexOracle) (dflt : Bool) (q : Query) : PExpr → Bool
  | .not _ e => !denote g ro dflt q e
  | .union _ a b => denote g ro dflt q a || denote g ro dflt q b
  | .inter _ a b => denote g ro dflt q a && denote g ro dflt q b
  | .diff a b => denote g ro dflt q a && !denote g ro dflt q b
  | .parens e => denote g ro dflt q e
  | .set s => denoteSet g ro dflt q s

/-- Evaluating the compiled filterset on a test answers exactly membership in the denoted set. -/
theorem eval_is_membership (g : Graph) (ro : RegexOracle) (dflt : Bool) (q : Query) (e : PExpr) :
    (compile g ro e).matchesTest ro dflt q = denote g ro dflt q e := by
  induction e with
  | not op e ih => simp only [compile, CExpr.matchesTest, denote, ih]
  | union op a b iha ihb => simp only [compile, CExpr.matchesTest, denote, iha, ihb]
  | inter op a b iha ihb => simp only [compile, CExpr.matchesTest, denote, iha, ihb]
  | diff a b iha ihb => simp only [compile, CExpr.matchesTest, denote, iha, ihb]
  | parens e ih => simp only [compile, denote, ih]
  | set s =>
    cases s with
    | unary p m sp => cases p <;> rfl
    | _ => rfl

/-- two expressions that differ only in how operators are spelled -/
inductive SameUpToSpelling : PExpr → PExpr → Prop
  | not (o1 o2) {a b} : SameUpToSpelling a b → SameUpToSpelling (.not o1 a) (.not o2 b)
  | union (o1 o2) {a b c d} : SameUpToSpelling a c → SameUpToSpelling b d → SameUpToSpelling (.union o1 a b) (.union o2 c d)
  | inter (o1 o2) {a b c d} : SameUpToSpelling a c → SameUpToSpelling b d → SameUpToSpelling (.inter o1 a b) (.inter o2 c d)
  | diff {a b c d} : SameUpToSpelling a c → SameUpToSpelling b d → SameUpToSpelling (.diff a b) (.diff c d)
  | parens {a b} : SameUpToSpelling a b → SameUpToSpelling (.parens a) (.parens b)
  | set (s) : SameUpToSpelling (.set s) (.set s)

private theorem compile_spelling (g : Graph) (ro : RegexOracle) {e1 e2 : PExpr} (h : SameUpToSpelling e1 e2) :
    compile g ro e1 = compile g ro e2 := by
  induction h with
  | not o1 o2 _ ih => simp only [compile, ih]
  | union o1 o2 _ _ ih1 ih2 => simp only [compile, ih1, ih2]
  | inter o1 o2 _ _ ih1 ih2 => simp only [compile, ih1, ih2]
  | diff _ _ ih1 ih2 => simp only [compile, ih1, ih2]
  | parens _ ih => simp only [compile, ih]
  | set s => rfl

/-- …identically for every spelling of each operator (`and`/`&`, `or`/`|`/`+`, `not`/`!`). -/
theorem spelling_irrelevant (g : Graph) (ro : RegexOracle) (dflt : Bool) (q : Query) (e1 e2 : PExpr)
    (h : SameUpToSpelling e1 e2) :
    (compile g ro e1).matchesTest ro dflt q = (compile g ro e2).matchesTest ro dflt q := by
  rw [compile_spelling g ro h]

/-- same binary, any test name -/
def withTest (q : Query) (t : List Char) : Query := { q with testName := t }

private theorem kNot_sound {x : Option Bool} {a : Bool} (hx : ∀ v, x = some v → a = v) : ∀ v, kNot x = some v → (!a) = v := by
  intro v h
  cases x with
  | none => cases h
  | some w =>
    cases h
    rw [hx w rfl]

private theorem kOr_sound {x y : Option Bool} {a b : Bool} (hx : ∀ v, x = some v → a = v) (hy : ∀ v, y = some v → b = v) :
    ∀ v, kOr x y = some v → (a || b) = v := by
  intro v h
  unfold kOr at h
  split at h
  · cases h
    rw [hx true rfl]
    rfl
  · cases h
    rw [hy true rfl]
    exact Bool.or_true a
  · cases h
    rw [hx false rfl, hy false rfl]
    rfl
  · cases h

private theorem kAnd_sound {x y : Option Bool} {a b : Bool} (hx : ∀ v, x = some v → a = v) (hy : ∀ v, y = some v → b = v) :
    ∀ v, kAnd x y = some v → (a && b) = v := by
  intro v h
  unfold kAnd at h
  split at h
  · cases h
    rw [hx false rfl]
    rfl
  · cases h
    rw [hy false rfl]
    exact Bool.and_false a
  · cases h
    rw [hx true rfl, hy true rfl]
    rfl
  · cases h

/-- If the binary-level evaluation of a compiled filterset gives a definite answer `b`, then the
    test-level evaluation gives `b` for *every* test name of that binary (the default filter's
    binary-level answer being, in the same sense, consistent with its test-level value).  This is
    what makes skipping a binary on `Some(false)` safe (C04 `binary_shortcut_sound`). -/
theorem kleene_sound (ro : RegexOracle) (q : Query) (t : List Char) (dt : Option Bool) (d : Bool)
    (hd : dt = none ∨ dt = some d) (e : CExpr) :
    ∀ b, e.matchesBinary ro dt q = some b → e.matchesTest ro d (withTest q t) = b := by
  induction e with
  | not e ih => exact kNot_sound ih
  | union a b iha ihb => exact kOr_sound iha ihb
  | inter a b iha ihb => exact kAnd_sound iha ihb
  | set l =>
    intro b h
    cases l with
    | default =>
      rcases hd with rfl | rfl
      · cases h
      · exact Option.some.inj h
    | test m => cases h
    | _ => exact Option.some.inj h

mutual
/-- a set, a negation of a basic expression, or a parenthesised expression -/
inductive IsBasic : PExpr → Prop
  | set (s) : IsBasic (.set s)
  | not (op) {e} : IsBasic e → IsBasic (.not op e)
  | parens {e} : IsOr e → IsBasic (.parens e)
/-- a left-nested chain of `and`/`&`/`-` over basic expressions -/
inductive IsAnd : PExpr → Prop
  | basic {e} : IsBasic e → IsAnd e
  | inter (op) {a b} : IsAnd a → IsBasic b → IsAnd (.inter op a b)
  | diff {a b} : IsAnd a → IsBasic b → IsAnd (.diff a b)
/-- a left-nested chain of `or`/`|`/`+` over and-level expressions -/
inductive IsOr : PExpr → Prop
  | and {e} : IsAnd e → IsOr e
  | union (op) {a b} : IsOr a → IsAnd b → IsOr (.union op a b)
end

private theorem combineOr_shape {acc : ERes} {op e2 r} (h : combineOr acc op e2 = some r)
    (ha : ∀ a, acc = some a → IsOr a) (hb : ∀ b, e2 = some b → IsAnd b) : IsOr r := by
  unfold combineOr at h
  split at h
  · rename_i o x y
    cases h
    exact IsOr.union o (ha x rfl) (hb y rfl)
  · cases h

private theorem combineAnd_shape {acc : ERes} {op e2 r} (h : combineAnd acc op e2 = some r)
    (ha : ∀ a, acc = some a → IsAnd a) (hb : ∀ b, e2 = some b → IsBasic b) : IsAnd r := by
  unfold combineAnd at h
  split at h
  · rename_i o x y; cases h; exact IsAnd.inter o (ha x rfl) (hb y rfl)
  · rename_i x y; cases h; exact IsAnd.diff (ha x rfl) (hb y rfl)
  · cases h

private theorem shape_all (cx : Ctx) : ∀ f,
    (∀ st e, (parseExpr cx f st).1 = some e → IsOr e) ∧
    (∀ acc st e, (∀ a, acc = some a → IsOr a) → (orLoop cx f acc st).1 = some e → IsOr e) ∧
    (∀ st e, (parseAndOr cx f st).1 = some e → IsAnd e) ∧
    (∀ acc st e, (∀ a, acc = some a → IsAnd a) → (andLoop cx f acc st).1 = some e → IsAnd e) ∧
    (∀ st e, (basicOrMissing cx f st).1 = some e → IsBasic e) ∧
    (∀ st r e, parseBasic cx f st = some r → r.1 = some e → IsBasic e) := by
  intro f
  induction f with
  | zero =>
    refine ⟨nofun, nofun, nofun, nofun, nofun, ?_⟩
    intro st r e hr h; cases hr; cases h
  | succ f ih =>
    obtain ⟨ihE, ihOL, ihA, ihAL, ihBM, ihB⟩ := ih
    refine ⟨?_, ?_, ?_, ?_, ?_, ?_⟩
    · intro st e h
      simp only [parseExpr] at h
      exact ihOL _ _ _ (fun a ha => IsOr.and (ihA _ _ ha)) h
    · intro acc st e hacc h
      simp only [orLoop] at h
      split at h
      · exact hacc _ h
      · exact ihOL _ _ _ (fun a ha => combineOr_shape ha hacc (ihA _)) h
    · intro st e h
      simp only [parseAndOr] at h
      exact ihAL _ _ _ (fun a ha => IsAnd.basic (ihBM _ _ ha)) h
    · intro acc st e hacc h
      simp only [andLoop] at h
      split at h
      · exact hacc _ h
      · exact ihAL _ _ _ (fun a ha => combineAnd_shape ha hacc (ihBM _)) h
    · intro st e h
      simp only [basicOrMissing] at h
      split at h
      · exact ihB _ _ _ ‹_› h
      · cases h
    · intro st r e hr h
      rcases parseBasic_some hr with ⟨s, st1, _, rfl⟩ | ⟨op, rest, _, rfl⟩ | ⟨rest, _, rfl⟩
      · obtain ⟨sd, _, rfl⟩ := Option.map_eq_some_iff.mp h; exact .set sd
      · obtain ⟨e1, h1, rfl⟩ := Option.map_eq_some_iff.mp h; exact .not op (ihBM _ _ h1)
      · obtain ⟨e1, h1, rfl⟩ := Option.map_eq_some_iff.mp h; exact .parens (ihE _ _ h1)

/-- **Precedence and associativity.**  For every input string whatsoever, if the parser produces an
    expression it has the documented shape: the operand of `not`/`!` is a basic expression (so `not`
    binds tighter than every binary operator); the right operand of `and`/`&`/`-` is basic and the
    left one contains no un-parenthesised `or` (so these bind tighter than `or`/`|`/`+` and
    associate to the left among themselves); the right operand of `or`/`|`/`+` contains no
    un-parenthesised `or` (left associativity); anything else needs parentheses. -/
theorem parse_shape (input : List Char) (rv gv : List (List Char × Bool)) (re : List (List Char × Nat × Nat)) (e : PExpr) (st : St)
    (h : parseTop (mkCtx input rv gv re) input = (some e, st)) : IsOr e := by
  unfold parseTop at h
  -- first of all: with the concrete fuel in `h` the unifier would unfold `parseExpr`
  generalize fuelFor input = f at h
  have key := (shape_all (mkCtx input rv gv re) f).1 { rest := input, errs := [], needs := [] } e
  simp only at h
  split at h <;> exact key (congrArg Prod.fst h)

/-- corollaries stated outright so they cannot be weakened silently -/
theorem not_operand_is_basic {op e} (h : IsOr (.not op e)) : IsBasic e := by
  cases h with
  | and h => cases h with
    | basic h => cases h with
      | not _ h => exact h

theorem and_binds_tighter_than_or {op a b} (h : IsOr (.inter op a b)) :
    (∀ o x y, a ≠ .union o x y) ∧ (∀ o x y, b ≠ .union o x y) ∧ (∀ o x y, b ≠ .inter o x y) ∧ (∀ x y, b ≠ .diff x y) := by
  cases h with
  | and h => cases h with
    | basic h => cases h
    | inter _ ha hb =>
      refine ⟨?_, ?_, ?_, ?_⟩
      · intro o x y hxy; subst hxy; cases ha with
        | basic hh => cases hh
      · intro o x y hxy; subst hxy; cases hb
      · intro o x y hxy; subst hxy; cases hb
      · intro x y hxy; subst hxy; cases hb

theorem or_is_left_associative {op a b} (h : IsOr (.union op a b)) : ∀ o x y, b ≠ .union o x y := by
  intro o x y hxy; subst hxy
  cases h with
  | and h => cases h with
    | basic h => cases h
  | union _ _ hb => cases hb with
    | basic hh => cases hh

section reach
open NextestModel.ReachLemmas

/-- **`depends_on` decides exactly the reflexive-transitive closure of the dependency edges** — soundness and COMPLETENESS of the
    fuelled search (fuel = number of packages), for every graph whose edges point to packages of the graph: cycles, diamonds,
    paths through non-workspace packages, any size.  Completeness is the part testing cannot settle: a walk is shortened to one
    without repeated packages, and such a walk has at most as many vertices as there are packages.  (`ha` is not used: the
    vertices after the first are what is counted, `ReachLemmas.dependsOn_iff`.) -/
theorem depends_on_is_reachability (g : Graph) (hv : Valid g) (a b : Nat) (ha : a < g.names.length) :
    g.dependsOn a b = true ↔ Reach g a b :=
  dependsOn_iff hv a b

/-- **`deps(m)` is the set of workspace packages reachable from a workspace package matching `m`** (itself included; paths may
    leave the workspace), and **`rdeps(m)`** the set of workspace packages from which one is reachable -/
theorem deps_rdeps_membership (g : Graph) (hv : Valid g) (ro : RegexOracle) (m : Matcher) (j : Nat) :
    (j ∈ g.depsOf ro m ↔ j ∈ g.wsIds ∧ ∃ i ∈ g.matching ro m, Reach g i j) ∧
    (j ∈ g.rdepsOf ro m ↔ j ∈ g.wsIds ∧ ∃ i ∈ g.matching ro m, Reach g j i) := by
  -- the two sides differ only in `dependsOn` against `Reach`
  constructor
  · simp only [Graph.depsOf, List.mem_filter, List.any_eq_true, dependsOn_iff hv]
  · simp only [Graph.rdepsOf, List.mem_filter, List.any_eq_true, dependsOn_iff hv]

-- non-vacuity: a cycle 0 → 1 → 2 → 0 with a tail 2 → 3 through a non-workspace package 2
example : let g : Graph := { names := [['a'], ['b'], ['c'], ['d']], workspace := [true, true, false, true], edges := [[1], [2], [0, 3], []] }
    Valid g ∧ g.dependsOn 0 3 = true ∧ g.dependsOn 3 0 = false := by
  exact ⟨valid_of_edges (by decide), by decide, by decide⟩

end reach

def dmName : DefaultMatcher → String
  | .equal => "equal" | .contains => "contains" | .glob => "glob"

/-- The predicate table of the model parser — names, `alt` order and default matcher of each
    predicate — is the one in `parse_set_def` as extracted on this run: package, deps, rdeps,
    binary_id, binary ↦ glob; kind ↦ equal; test ↦ contains; then platform, default, all, none. -/
theorem default_matchers :
    Gen.setDefTable.map (fun r => (r.1, r.2.1)) =
      unaryTable.map (fun r => (r.1, dmName r.2.1)) ++
        [("platform", "platform"), ("default", "nullary"), ("all", "nullary"), ("none", "nullary")] :=
  -- `rfl`, not `decide`: both lists reduce to the same literals, which `decide` would compare character by character
  rfl

end NextestModel.C05
