/-
  C09 — slow tests are flagged, terminated only at the configured deadline, then killed.
  Property theorems only, over Model/Unit: every sequence of events (time passing in any pieces,
  SIGTSTP/SIGCONT requests, information requests, non-signal cancellations, the process exiting at any
  moment) that contains no shutdown request.  Time is running time: `sw.active` is what the attempt's
  stopwatch has counted while not paused.
-/
import NextestModel.Lemmas.Unit
import NextestModel.Gen.Tables
namespace NextestModel.C09
open NextestModel.Unit

/-- no shutdown request among the events (C11 covers those) -/
def Quiet : List Ev → Prop
  | [] => True
  | .req (.shutdown _) :: _ => False
  | _ :: es => Quiet es

/-- a signal that ends the test: everything but job control -/
def hard : Act → Bool
  | .kill .tstp => false
  | .kill .cont => false
  | .kill _ => true
  | _ => false

/-- the deadline has been reached when the attempt's stopwatch shows `t` -/
def Reached (c : Cfg) (t : Nat) : Prop := ∃ k, c.terminateAfter = some k ∧ k * c.period ≤ t

private theorem Reached.mono {c : Cfg} {s t : Nat} (h : Reached c s) (hle : s ≤ t) : Reached c t :=
  let ⟨k, hk, hs⟩ := h; ⟨k, hk, Nat.le_trans hs hle⟩

/-- the main loop of an attempt that has not timed out, in numbers: `active` is what the attempt's stopwatch has counted,
    `remaining` what is left of the interval sleep.  (Numbers, not clocks: pausing and resuming leave every argument as it stands.) -/
structure Main (c : Cfg) (active remaining hits : Nat) (slow : Bool) : Prop where
  /-- the stopwatch and the interval sleep have counted the same time -/
  sum : active + remaining = (hits + 1) * c.period
  pos : 0 < remaining
  le : remaining ≤ c.period
  slow_iff : slow = true ↔ 0 < hits
  /-- the deadline has not been reached -/
  hits_lt : ∀ k, c.terminateAfter = some k → hits < k

private theorem Main.tick {c : Cfg} {sw : Watch} {is : Timer} {hits : Nat} {slow : Bool} {d : Nat}
    (h : Main c sw.active is.remaining hits slow) (hpa : sw.paused = is.paused) (hd : ∀ n, is.due = some n → d < n) :
    Main c (sw.tick d).active (is.tick d).remaining hits slow :=
  ⟨(tick_sum hpa fun n hn => Nat.le_of_lt (hd n hn)).trans h.sum, Timer.tick_pos hd h.pos, Nat.le_trans (is.tick_le d) h.le,
    h.slow_iff, h.hits_lt⟩

private theorem Main.rearm {c : Cfg} {active remaining hits : Nat} {slow : Bool} (hp : 0 < c.period)
    (h : Main c active remaining hits slow) (hk : ∀ k, c.terminateAfter = some k → hits + 1 < k) :
    Main c (active + remaining) c.period (hits + 1) true := by
  refine ⟨?_, hp, Nat.le_refl _, by simp, hk⟩
  rw [h.sum, Nat.succ_mul (hits + 1)]

/-- no expiry yet: the stopwatch is short of a period by what is left of the interval; otherwise the periods counted have passed -/
private theorem Main.slow_iff_period {c : Cfg} {active remaining hits : Nat} {slow : Bool} (h : Main c active remaining hits slow) :
    slow = true ↔ c.period ≤ active := by
  obtain ⟨hsum, hpos, hle, hslow, _⟩ := h
  rw [hslow]
  rcases Nat.eq_zero_or_pos hits with h0 | h0
  · simp only [h0, Nat.zero_add, Nat.one_mul] at hsum
    omega
  · have := Nat.le_mul_of_pos_left c.period h0
    rw [Nat.add_mul, Nat.one_mul] at hsum
    omega

/-- what holds of every state reachable from a spawn without shutdown requests: while the attempt is running and has not timed
    out, the stopwatch and the interval sleep are paused together and `Main` holds of what they show; a termination happens only
    after the timeout, with the deadline reached, and its waiting stopwatch and grace sleep have counted the same time and are
    paused together -/
def Inv (c : Cfg) (u : U) : Prop :=
  match u.phase with
  | .running => u.timedOut = false → u.sw.paused = u.is.paused ∧ Main c u.sw.active u.is.remaining u.hits u.slow
  | .terminating _ => u.timedOut = true ∧ Reached c u.sw.active ∧ u.ws.active + u.gs.remaining = c.grace ∧ u.gs.paused = u.ws.paused
  | _ => True

private theorem inv_spawn (c : Cfg) (hp : 0 < c.period) (hk : ∀ k, c.terminateAfter = some k → 0 < k) : Inv c (U.spawn c) := by
  simp [Inv, U.spawn]
  exact ⟨by simp, hp, Nat.le_refl _, by simp, hk⟩

/-- a request other than a shutdown signal at most flips the pause flags of paired clocks together, or ends a delay -/
private theorem req_inv (c : Cfg) (u : U) (r : Req) (hq : Quiet [.req r]) (hi : Inv c u) :
    Inv c (onReq c u r).1 ∧ ∀ a ∈ (onReq c u r).2, hard a = false := by
  fun_cases onReq c u r <;> simp_all [Inv, hard, Quiet]

private theorem time_inv (c : Cfg) (hp : 0 < c.period) (u : U) (dt : Nat) (hi : Inv c u) :
    Inv c (advance c u dt).1 ∧ ∀ a ∈ (advance c u dt).2, hard a = true → Reached c (advance c u dt).1.sw.active := by
  cases hph : u.phase <;> simp only [Inv, hph] at hi
  case terminating w =>
    obtain ⟨hto, hr, hsum, hpa⟩ := hi
    have hdue : nextDue u = u.gs.due := by simp [nextDue, hph]
    rcases advance_cases c u dt with ⟨hlt, h⟩ | ⟨n, -, h⟩ <;> rw [h]
    · -- until the grace sleep runs out, it and the waiting stopwatch move together
      have hd : ∀ n, u.gs.due = some n → dt ≤ n := fun n hn => Nat.le_of_lt (hlt n (hdue ▸ hn))
      simp [elapse, hph, Inv, hto, hpa, tick_sum hpa.symm hd, hsum, hr.mono (u.sw.le_tick dt)]
    · -- the grace period ends: the group is killed, and the unit is back in the main loop, timed out
      simp [fire, elapse, hph, Inv, hard, hto, hr.mono (u.sw.le_tick _)]
  case running =>
    cases hto : u.timedOut
    -- timed out and in the main loop (zero grace period, or `terminate_child` has returned): no timer is armed, `Inv` asks nothing
    case true =>
      rw [advance_of_lt (by simp [nextDue, hph, hto])]
      simp [elapse, Inv, hph, hto]
    obtain ⟨hpa, hm⟩ := hi hto
    have hdue : nextDue u = u.is.due := by simp [nextDue, hph, hto]
    rcases advance_cases c u dt with ⟨hlt, h⟩ | ⟨n, hn, h⟩ <;> rw [h]
    · -- until the interval sleep runs out, it and the stopwatch move together
      simp [elapse, hph, Inv, hto, hpa, hm.tick hpa fun n hn => hlt n (hdue ▸ hn)]
    · -- the interval fires when the stopwatch shows (hits + 1) periods: at the deadline if hits + 1 is terminate-after
      obtain ⟨hip, rfl⟩ : u.is.paused = false ∧ u.is.remaining = n := by simpa [hdue, Timer.due] using hn
      have hsp := hpa.trans hip
      simp only [elapse, hph, hto, Timer.tick, Watch.tick, hip, hsp, fire]
      cases hta : c.terminateAfter with
      | none => simp [Inv, hard, hm.rearm hp (by simp [hta])]
      | some k =>
        by_cases hkl : k ≤ u.hits + 1
        · -- the deadline: the group is signalled (killed at once if there is no grace period) and the attempt has timed out
          have hr : Reached c (u.sw.active + u.is.remaining) := ⟨k, hta, hm.sum ▸ Nat.mul_le_mul_right _ hkl⟩
          by_cases hg : c.grace = 0 <;> simp [Inv, hard, hg, hkl, beginTerminate, timeoutSignal, hr]
        · -- not yet: re-armed for another period
          simp [Inv, hard, hkl, hm.rearm hp (by simpa [hta] using Nat.lt_of_not_le hkl)]
  -- a unit that is draining, between attempts or done stays so or is done, and signals nothing
  all_goals rcases advance_cases c u dt with ⟨-, h⟩ | ⟨n, -, h⟩ <;> simp [h, fire, Inv, hph]

private theorem step_inv (c : Cfg) (hp : 0 < c.period) (u : U) (e : Ev) (hq : Quiet [e]) (hi : Inv c u) :
    Inv c (step c u e).1 ∧ ∀ a ∈ (step c u e).2, hard a = true → Reached c (step c u e).1.sw.active := by
  fun_cases step c u e
  case case1 r =>      -- `.req r`
    obtain ⟨h1, h2⟩ := req_inv c u r hq hi
    refine ⟨h1, fun a ha hh => ?_⟩
    rw [h2 a ha] at hh
    cases hh
  case case2 dt => exact time_inv c hp u dt hi      -- `.time dt`
  -- `.childExit`, `.fdsDone`: nothing is signalled
  all_goals refine ⟨?_, fun _ ha => nomatch ha⟩
  case case4 w hph =>      -- a process that exits under termination leaves the unit in the main loop, timed out, where `Inv` asks nothing
    simp only [Inv, hph] at hi
    exact fun hto => nomatch hi.1.symm.trans hto
  case case5 | case7 => exact hi      -- not an event of this phase
  all_goals trivial                   -- draining or done: `Inv` asks nothing

private theorem quiet_cons {e : Ev} {es : List Ev} (h : Quiet (e :: es)) : Quiet [e] ∧ Quiet es := by
  cases e with
  | req r => cases r <;> simp_all [Quiet]
  | _ => simp_all [Quiet]

private theorem run_inv (c : Cfg) (hp : 0 < c.period) : ∀ (es : List Ev) (u : U), Quiet es → Inv c u →
    Inv c (run c u es).1 ∧ ∀ a ∈ (run c u es).2, hard a = true → Reached c (run c u es).1.sw.active
  | [], _, _, hi => ⟨hi, by simp [run]⟩
  | e :: es, u, hq, hi => by
    obtain ⟨hi1, hk1⟩ := step_inv c hp u e (quiet_cons hq).1 hi
    obtain ⟨hi2, hk2⟩ := run_inv c hp es (step c u e).1 (quiet_cons hq).2 hi1
    refine ⟨hi2, fun a ha hh => ?_⟩
    rcases List.mem_append.mp ha with ha | ha
    · exact (hk1 a ha hh).mono (sw_le_run c es _)
    · exact hk2 a ha hh

/-- **A test is never signalled before its deadline**: whatever happens (time passing in any pieces,
    stop/continue, information requests, non-signal cancellation, the process exiting) short of a
    shutdown signal, if SIGTERM or SIGKILL is ever sent to the test's process group then
    terminate-after is configured and the test has by then run — not counting time spent stopped —
    for at least terminate-after × period. -/
theorem no_terminate_before_deadline (c : Cfg) (hp : 0 < c.period) (hk : ∀ k, c.terminateAfter = some k → 0 < k)
    (es : List Ev) (hq : Quiet es) (a : Act) (ha : a ∈ (run c (U.spawn c) es).2) (hh : hard a = true) :
    ∃ k, c.terminateAfter = some k ∧ k * c.period ≤ (run c (U.spawn c) es).1.sw.active :=
  (run_inv c hp es (U.spawn c) hq (inv_spawn c hp hk)).2 a ha hh

/-- **A test that finishes before its deadline is never signalled** (the contrapositive, as the
    property states it) -/
theorem fast_tests_unsignalled (c : Cfg) (hp : 0 < c.period) (k : Nat) (hta : c.terminateAfter = some k) (hk : 0 < k)
    (es : List Ev) (hq : Quiet es) (hfast : (run c (U.spawn c) es).1.sw.active < k * c.period) :
    ∀ a ∈ (run c (U.spawn c) es).2, hard a = false := by
  refine fun a ha => Bool.eq_false_iff.mpr fun hh => ?_
  obtain ⟨k', hk', hle⟩ := no_terminate_before_deadline c hp (by simp [hta, hk]) es hq a ha hh
  obtain rfl : k = k' := by simpa [hta] using hk'
  exact Nat.not_le_of_gt hfast hle

/-- **A test with no terminate-after is never terminated for slowness** -/
theorem no_terminate_without_terminate_after (c : Cfg) (hp : 0 < c.period) (hta : c.terminateAfter = none)
    (es : List Ev) (hq : Quiet es) : ∀ a ∈ (run c (U.spawn c) es).2, hard a = false := by
  refine fun a ha => Bool.eq_false_iff.mpr fun hh => ?_
  obtain ⟨k, hk, _⟩ := no_terminate_before_deadline c hp (by simp [hta]) es hq a ha hh
  simp [hta] at hk

/-- **A test is marked slow iff it ran for longer than its slow-timeout period** (running time; stated
    while the attempt is running and has not been timed out) -/
theorem slow_iff_period_elapsed (c : Cfg) (hp : 0 < c.period) (hk : ∀ k, c.terminateAfter = some k → 0 < k)
    (es : List Ev) (hq : Quiet es) (hph : (run c (U.spawn c) es).1.phase = .running)
    (hto : (run c (U.spawn c) es).1.timedOut = false) :
    (run c (U.spawn c) es).1.slow = true ↔ c.period ≤ (run c (U.spawn c) es).1.sw.active := by
  have hi := (run_inv c hp es (U.spawn c) hq (inv_spawn c hp hk)).1
  simp only [Inv, hph] at hi
  exact (hi hto).2.slow_iff_period

/-- **At the deadline the whole group gets SIGTERM — SIGKILL at once if the grace period is zero** -/
theorem terminate_signal (c : Cfg) (u : U) (k : Nat) (hph : u.phase = .running) (hto : u.timedOut = false)
    (hta : c.terminateAfter = some k) (hk : k ≤ u.hits + 1) :
    (fire c u).2 = (if c.grace = 0 then [.kill .kill] else [.slow ((u.hits + 1) * c.period) true, .kill .term]) ∧
    (fire c u).1.timedOut = true ∧
    (fire c u).1.phase = (if c.grace = 0 then .running else .terminating .timeout) := by
  simp only [fire, hph, hta, hk, decide_true, if_true, beginTerminate, timeoutSignal]
  by_cases hg : c.grace = 0 <;> simp [hg]

/-- **If the test has still not exited when the grace period ends, the group is killed**: in a
    termination for timeout, the grace timer has counted exactly the grace period of un-paused time
    when SIGKILL is sent -/
theorem kill_after_grace (c : Cfg) (hp : 0 < c.period) (hk : ∀ k, c.terminateAfter = some k → 0 < k)
    (es : List Ev) (hq : Quiet es) (u : U) (hu : u = (run c (U.spawn c) es).1) (w : Why) (hph : u.phase = .terminating w)
    (hnp : u.gs.paused = false) :
    (advance c u u.gs.remaining).2 = [.kill .kill] ∧ (elapse u u.gs.remaining).ws.active = c.grace := by
  have hi := (run_inv c hp es (U.spawn c) hq (inv_spawn c hp hk)).1
  rw [← hu] at hi
  simp only [Inv, hph] at hi
  obtain ⟨_, _, hsum, hpa⟩ := hi
  have hwp : u.ws.paused = false := hpa ▸ hnp
  have hdue : nextDue u = some u.gs.remaining := by simp [nextDue, hph, Timer.due, hnp]
  refine ⟨?_, ?_⟩
  · rw [advance_of_le hdue (Nat.le_refl _)]
    simp [fire, hph]
  · simpa [elapse, hph, Watch.tick, hwp] using hsum

/-- **A timed-out attempt is reported as timed out**, whatever its exit status -/
theorem timeout_reported (u : U) (h : u.timedOut = true) : u.outcome = .timeout :=
  if_pos h

/-! ## Non-vacuity: a test that ignores SIGTERM under period 100, terminate-after 2, grace 50 -/
example :
    (run { period := 100, terminateAfter := some 2, grace := 50, leak := 10 } (U.spawn { period := 100, terminateAfter := some 2, grace := 50, leak := 10 })
      [.time 60, .req .stop, .time 500, .req .cont, .time 40, .time 100, .time 50]).2
    = [.kill .tstp, .ack, .kill .cont, .slow 100 false, .slow 200 true, .kill .term, .kill .kill] := by decide

/-- **the branch `run_test_inner` takes when a slow-timeout period runs out, statement by statement as read from executor.rs on
    this run, is the model's clause** — mark slow, count the hit, `will_terminate` = (hits ≥ terminate-after), the slow event
    (hits × period) unless the grace period is zero, then either `terminate_child(Timeout)` *followed by* the timeout verdict
    (and, with a zero grace period, straight to waiting for the exit) or the interval re-armed — **and the setup-script loop
    has the same branch**, so every C09 theorem about the model speaks about setup scripts too -/
theorem interval_branch_is_the_models (c : Cfg) (u : U) (hp : u.phase = .running) :
    interpArm (applyInterval c) (guardInterval c) Gen.testIntervalBranch u = fire c u ∧
    interpArm (applyInterval c) (guardInterval c) Gen.scriptIntervalBranch u = fire c u := by
  have hs : Gen.scriptIntervalBranch = Gen.testIntervalBranch := rfl
  rw [hs, and_self]
  -- by cases on what the branch's guards read: `will_terminate` once the hit has been counted, and the grace period
  cases ht : willTerminate c { u with hits := u.hits + 1 }
  all_goals
    simp only [willTerminate] at ht
    simp only [interpArm_eq, Gen.testIntervalBranch, List.foldl_cons, List.foldl_nil]
    by_cases hg : c.grace = 0 <;>
      simp [applyInterval, guardInterval, willTerminate, fire, beginTerminate, timeoutSignal, hp, ht, hg]

end NextestModel.C09
