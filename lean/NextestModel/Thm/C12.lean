/-
  C12 — stop/continue pauses tests and all clocks under every signal interleaving.
  Property theorems only, over Model/Unit (the unit's wait loops with their pausable timers) and
  Model/Dispatcher (debouncing).  That every clock counts running time only — the slow-timeout deadline
  under arbitrary stop/continue — is C09.no_terminate_before_deadline, whose event sequences include
  stop and continue requests; here: no interleaving makes a timer transition illegal, everything is
  resumed, paused clocks do not move, information requests are answered once and change nothing.
-/
import NextestModel.Lemmas.Unit
import NextestModel.Model.Dispatcher
import NextestModel.Gen.Tables
namespace NextestModel.C12
open NextestModel.Unit

/-- the dispatcher debounces: a Stop request is only broadcast while not stopped (see
    `stop_continue_alternate` below); Continue may arrive at any time (a unit may start between them) -/
def Alternating : Bool → List Ev → Prop
  | _, [] => True
  | stopped, .req .stop :: es => stopped = false ∧ Alternating true es
  | _, .req .cont :: es => Alternating false es
  | stopped, _ :: es => Alternating stopped es

/-- whatever is paused is paused because the run is stopped -/
def Disc (u : U) (stopped : Bool) : Prop :=
  match u.phase with
  | .running => u.sw.paused = true → stopped = true
  | .terminating _ => (u.sw.paused = true → stopped = true) ∧ (u.gs.paused = true → stopped = true) ∧ (u.ws.paused = true → stopped = true)
  | .delay => u.ds.paused = u.ws.paused ∧ (u.ds.paused = true → stopped = true)
  | _ => True

/-- whether the run is stopped once the event has been seen: the state `Alternating` carries along the list -/
def stoppedAfter (stopped : Bool) : Ev → Bool
  | .req .stop => true
  | .req .cont => false
  | _ => stopped

private theorem elapse_disc (u : U) (d : Nat) (st : Bool) (h : Disc u st) : Disc (elapse u d) st := by
  fun_cases elapse u d <;> simp_all [Disc]

/-- the clocks `terminate_child` starts are not paused -/
private theorem beginTerminate_disc {c : Cfg} {u u' : U} {why : Why} {sig : Sig} {a : List Act} {st : Bool}
    (hb : beginTerminate c u why sig = (u', a)) (hph : u.phase = .running) (h : Disc u st) : Disc u' st ∧ Act.panic ∉ a := by
  unfold beginTerminate at hb
  split at hb
  all_goals
    cases hb
    simp_all [Disc]

private theorem fire_disc (c : Cfg) (u : U) (st : Bool) (h : Disc u st) : Disc (fire c u).1 st ∧ Act.panic ∉ (fire c u).2 := by
  fun_cases fire c u
  case case1 hph _ _ ev _ _ u2 a hb =>
    -- the interval fires for the last time: `terminate_child`
    obtain ⟨h1, h2⟩ := beginTerminate_disc hb hph h
    exact ⟨h1, by simp [ev, h2]⟩
  case case2 hph _ _ ev _ _ =>
    -- the interval is re-armed: no pause flag and no phase changes
    exact ⟨h, by simp [ev]⟩
  all_goals simp_all [Disc]

/-- a Stop arrives only while nothing is paused (`Disc` with `stopped = false`), so no pause is illegal; a Continue resumes what
    is paused, and in a delay the two clocks are paused together, so no resume is illegal -/
private theorem req_disc (c : Cfg) (u : U) (r : Req) (st : Bool) (ha : Alternating st [.req r]) (h : Disc u st) :
    Disc (onReq c u r).1 (stoppedAfter st (.req r)) ∧ Act.panic ∉ (onReq c u r).2 := by
  fun_cases onReq c u r
  case case4 hph sr => exact beginTerminate_disc rfl hph h      -- a shutdown request in the main loop: `terminate_child`
  all_goals simp_all [Disc, Alternating, stoppedAfter]

private theorem step_disc (c : Cfg) (u : U) (e : Ev) (st : Bool) (ha : Alternating st [e]) (h : Disc u st) :
    Disc (step c u e).1 (stoppedAfter st e) ∧ Act.panic ∉ (step c u e).2 := by
  fun_cases step c u e
  case case1 r => exact req_disc c u r st ha h      -- `.req r`
  case case2 dt =>                                  -- `.time dt`
    rcases advance_cases c u dt with ⟨-, h'⟩ | ⟨n, -, h'⟩ <;> rw [h']
    · exact ⟨elapse_disc u _ st h, by simp⟩
    · exact fire_disc c _ st (elapse_disc u _ st h)
  -- `.childExit`, `.fdsDone`: nothing is done
  all_goals refine ⟨?_, List.not_mem_nil⟩
  case case4 w hph =>      -- a unit that leaves `terminate_child` keeps its stopwatch, paused or not
    simp only [Disc, hph] at h
    exact h.1
  case case5 | case7 => exact h      -- not an event of this phase
  all_goals trivial                  -- the other phases entered ask nothing

private theorem alt_cons {st : Bool} {e : Ev} {es : List Ev} (h : Alternating st (e :: es)) :
    Alternating st [e] ∧ Alternating (stoppedAfter st e) es := by
  cases e with
  | req r => cases r <;> simp_all [Alternating, stoppedAfter]
  | _ => simp_all [Alternating, stoppedAfter]

/-- **No interleaving of stop/continue with timeouts, shutdown signals, retries, information requests
    and the process's own exit makes nextest fail internally**: no timer is ever paused while paused or
    resumed while running — for every event sequence in which Stop requests are debounced as the
    dispatcher debounces them, from a fresh attempt as from a retry delay. -/
theorem timer_discipline (c : Cfg) : ∀ (es : List Ev) (u : U) (st : Bool), Alternating st es → Disc u st →
    Act.panic ∉ (run c u es).2 := by
  intro es
  induction es with
  | nil => simp [run]
  | cons e es ih =>
    intro u st ha hd
    obtain ⟨ha1, ha2⟩ := alt_cons ha
    obtain ⟨hd1, hp1⟩ := step_disc c u e st ha1 hd
    simp only [run, List.mem_append, not_or]
    exact ⟨hp1, ih _ _ ha2 hd1⟩

theorem timer_discipline_spawn (c : Cfg) (es : List Ev) (h : Alternating false es) : Act.panic ∉ (run c (U.spawn c) es).2 :=
  timer_discipline c es _ false h (by simp [Disc, U.spawn])

theorem timer_discipline_delay (c : Cfg) (d : Nat) (es : List Ev) (h : Alternating false es) : Act.panic ∉ (run c (U.enterDelay d) es).2 :=
  timer_discipline c es _ false h (by simp [Disc, U.enterDelay])

/-! ## Non-vacuity: stop in the main loop, shutdown while stopped, continue, stop again in the grace period -/
example : Alternating false [.req .stop, .req (.shutdown (.once .interrupt)), .req .cont, .time 10, .req .stop, .req (.shutdown .twice), .req .cont]
    ∧ (run { period := 1000, terminateAfter := none, grace := 300, leak := 100 } (U.spawn { period := 1000, terminateAfter := none, grace := 300, leak := 100 })
      [.req .stop, .req (.shutdown (.once .interrupt)), .req .cont, .time 10, .req .stop, .req (.shutdown .twice), .req .cont]).2
      = [.kill .tstp, .ack, .kill .int, .kill .cont, .kill .tstp, .ack, .kill .kill, .kill .cont] := ⟨by simp [Alternating], by decide⟩

/-- **On SIGCONT everything the phase owns is resumed and the group is continued**: after a Continue
    request that follows a Stop, in the main loop the stopwatch and the slow-timeout timer run again, in
    the grace period the stopwatch, the grace timer and the waiting stopwatch, in the retry delay the
    delay timer and its stopwatch; SIGCONT is forwarded to the process group where there is a process. -/
theorem all_resumed (c : Cfg) (u : U) (hstop : u.sw.paused = true ∨ u.phase = .delay) (hd : Disc u true) :
    let u' := (onReq c u .cont).1
    (u.phase = .running → u'.sw.paused = false ∧ u'.is.paused = false ∧ Act.kill .cont ∈ (onReq c u .cont).2) ∧
    (∀ w, u.phase = .terminating w → u'.sw.paused = false ∧ u'.gs.paused = false ∧ u'.ws.paused = false ∧ Act.kill .cont ∈ (onReq c u .cont).2) ∧
    (u.phase = .delay → u'.ds.paused = false ∧ u'.ws.paused = false) ∧
    (u.phase = .draining → u'.sw.paused = false ∧ u'.lsPaused = false) := by
  refine ⟨?_, ?_, ?_, ?_⟩
  · intro hph
    rcases hstop with hs | hs
    · simp [onReq, hph, hs]
    · rw [hph] at hs
      cases hs
  · intro w hph
    simp [onReq, hph]
  · intro hph
    -- the delay sleep and its stopwatch are paused together (`Disc`)
    simp only [Disc, hph] at hd
    cases hp : u.ds.paused <;> simp [onReq, hph, hp, ← hd.1]
  · intro hph
    simp [onReq, hph]

/-- **Time spent stopped is excluded from every clock**: while the unit is stopped (its stopwatch and
    the timer of its phase paused) the passage of any amount of time changes neither the reported
    duration nor the slow-timeout, grace-period, retry-delay or leak timers, and nothing fires — in every phase that waits:
    running, being terminated, waiting out a retry delay, and draining the handles of an exited process (the last after the
    repair of F12: before it, a stop while draining was charged to the test's duration and to the leak timeout). -/
theorem stopped_time_excluded (c : Cfg) (u : U) (dt : Nat) :
    (u.phase = .running → u.sw.paused = true → u.is.paused = true →
      (advance c u dt).2 = [] ∧ (advance c u dt).1.sw.active = u.sw.active ∧ (advance c u dt).1.is.remaining = u.is.remaining) ∧
    (∀ w, u.phase = .terminating w → u.sw.paused = true → u.gs.paused = true → u.ws.paused = true →
      (advance c u dt).2 = [] ∧ (advance c u dt).1.sw.active = u.sw.active ∧ (advance c u dt).1.gs.remaining = u.gs.remaining ∧
        (advance c u dt).1.ws.active = u.ws.active) ∧
    (u.phase = .delay → u.ds.paused = true → u.ws.paused = true →
      (advance c u dt).2 = [] ∧ (advance c u dt).1.ds.remaining = u.ds.remaining ∧ (advance c u dt).1.ws.active = u.ws.active) ∧
    (u.phase = .draining → u.sw.paused = true → u.lsPaused = true →
      (advance c u dt).2 = [] ∧ (advance c u dt).1.sw.active = u.sw.active ∧ (advance c u dt).1.ls = u.ls ∧
        (advance c u dt).1.phase = .draining) := by
  -- in each phase: no timer is due while its sleep is paused, so time only passes, and it moves no paused clock
  refine ⟨?_, ?_, ?_, ?_⟩
  · intro hph h1 h2
    rw [advance_of_lt (by simp [nextDue, hph, Timer.due, h2])]
    simp [elapse, hph, Watch.tick, Timer.tick, h1, h2]
  · intro w hph h1 h2 h3
    rw [advance_of_lt (by simp [nextDue, hph, Timer.due, h2])]
    simp [elapse, hph, Watch.tick, Timer.tick, h1, h2, h3]
  · intro hph h1 h2
    rw [advance_of_lt (by simp [nextDue, hph, Timer.due, h1])]
    simp [elapse, hph, Watch.tick, Timer.tick, h1, h2]
  · intro hph h1 h2
    rw [advance_of_lt (by simp [nextDue, hph, h2])]
    simp [elapse, hph, Watch.tick, h1, h2]

/-- … and while running, they advance by exactly the time that passes (up to the next expiry) -/
theorem running_time_counted (c : Cfg) (u : U) (dt : Nat) (hph : u.phase = .running) (hto : u.timedOut = false)
    (h1 : u.sw.paused = false) (h2 : u.is.paused = false) (hlt : dt < u.is.remaining) :
    (advance c u dt).1.sw.active = u.sw.active + dt ∧ (advance c u dt).1.is.remaining = u.is.remaining - dt := by
  rw [advance_of_lt (by simpa [nextDue, hph, hto, Timer.due, h2] using hlt)]
  simp [elapse, hph, hto, Watch.tick, Timer.tick, h1, h2]

/-- **An information request is answered by the unit exactly once, with the state of what it is
    doing, and changes nothing** -/
theorem info_once_and_matches (c : Cfg) (u : U) :
    (onReq c u .getInfo).1 = u ∧
    (onReq c u .getInfo).2 = (match u.phase with
      | .running => [.info .running]
      | .terminating _ => [.info .terminating]
      | .draining => [.info .exiting]
      | .delay => [.info .delayBeforeNextAttempt]
      | .done => []) := by
  cases hph : u.phase <;> simp [onReq, hph]

/-- **Stop and continue change no result**: they alter pause flags only — never the phase, the
    time-out status, the slow mark, the counted periods or the leak verdict -/
theorem stop_continue_change_no_result (c : Cfg) (u : U) (r : Req) (hr : r = .stop ∨ r = .cont) :
    let u' := (onReq c u r).1
    u'.phase = u.phase ∧ u'.timedOut = u.timedOut ∧ u'.slow = u.slow ∧ u'.hits = u.hits ∧ u'.leaked = u.leaked ∧
      u'.sw.active = u.sw.active ∧ u'.is.remaining = u.is.remaining ∧ u'.gs.remaining = u.gs.remaining ∧ u'.ds.remaining = u.ds.remaining := by
  fun_cases onReq c u r <;> simp at hr ⊢

/-- nothing is paused, and the unit is in a phase whose clocks all belong to it: the main loop, a retry delay, the draining of
    leaked handles, a termination for a timeout (for a termination caused by a shutdown signal the slow-timeout interval is
    not among the clocks `terminate_child` pauses — see the remark below) -/
def Quiescent (u : U) : Prop :=
  match u.phase with
  | .running => u.sw.paused = false ∧ u.is.paused = false
  | .terminating _ => u.timedOut = true ∧ u.sw.paused = false ∧ u.gs.paused = false ∧ u.ws.paused = false
  | .draining => u.sw.paused = false ∧ u.lsPaused = false
  | .delay => u.ds.paused = false ∧ u.ws.paused = false
  | .done => True

/-- what the unit does for the stop … continue pair itself -/
def bubbleActs (u : U) : List Act :=
  match u.phase with
  | .running => [.kill .tstp, .ack, .kill .cont]
  | .terminating _ => [.kill .tstp, .ack, .kill .cont]
  | .draining => [.ack]
  | .delay => [.ack]
  | .done => []

/-- **A stop … continue pair leaves no trace**: from a state in which nothing is paused, being stopped, any amount of time
    passing in any number of pieces, and being continued brings the unit back to exactly the state it was in — every clock,
    counter and flag — having done nothing but forward the two job-control signals and acknowledge the stop -/
theorem stop_bubble_erased (c : Cfg) (u : U) (ds : List Nat) (hq : Quiescent u) :
    run c u (.req .stop :: (ds.map Ev.time ++ [.req .cont])) = (u, bubbleActs u) := by
  have hstopped : nextDue (onReq c u .stop).1 = none ∧ ∀ d, elapse (onReq c u .stop).1 d = (onReq c u .stop).1 := by
    cases hph : u.phase
    all_goals
      simp [Quiescent, hph] at hq
      simp [onReq, hph, hq, nextDue, elapse, Timer.due, Watch.tick, Timer.tick]
  have ht : run c (onReq c u .stop).1 (ds.map .time) = ((onReq c u .stop).1, []) := by
    rw [run_time_lt c ds _ (by simp [hstopped.1]), hstopped.2]
  simp only [run, step, run_append, ht]
  clear ht hstopped
  -- the Continue clears the flags the Stop set, and they were clear before (`hq`); the flags as variables, so that `hq` fills them in
  obtain ⟨ph, ⟨_, swp⟩, ⟨_, isp⟩, ⟨_, gsp⟩, ⟨_, wsp⟩, ⟨_, dsp⟩, _, lsp⟩ := u
  cases ph
  all_goals
    simp [Quiescent] at hq
    simp [onReq, bubbleActs, hq]

/-- **… hence the run proceeds to the results it would otherwise have produced**: inserting a stop … continue pair (with any
    passage of time in between) anywhere in a unit's history where nothing is paused changes neither the final state — result,
    time-out and slow marks, counted periods, leak verdict, reported duration, every timer — nor any action other than the
    pair's own job-control signals and acknowledgement -/
theorem results_unchanged (c : Cfg) (u : U) (pre post : List Ev) (ds : List Nat) (hq : Quiescent (run c u pre).1) :
    run c u (pre ++ (.req .stop :: (ds.map Ev.time ++ [.req .cont])) ++ post) =
      ((run c u (pre ++ post)).1, (run c u pre).2 ++ bubbleActs (run c u pre).1 ++ (run c (run c u pre).1 post).2) := by
  rw [List.append_assoc, run_append, run_append c _ post, stop_bubble_erased c _ ds hq, run_append c pre post]
  simp only [List.append_assoc]

-- the excluded corner: a termination caused by a shutdown signal pauses the stopwatch, the grace timer and the waiting stopwatch
-- but not the slow-timeout interval (it is not an argument of `terminate_child`), so a stop during such a termination lets
-- the interval run on; it can only matter for a unit the run has already given up on
example : let c : Cfg := { period := 1000, terminateAfter := none, grace := 500, leak := 100 }
    (run c (U.spawn c) [.req (.shutdown (.once .interrupt)), .req .stop, .time 300, .req .cont]).1.is.remaining = 700 := by decide

open NextestModel.Dispatcher in
/-- **The dispatcher debounces stop and continue**: a Stop is acted on (RunPaused, broadcast, nextest
    stops itself) only when not already stopped, a Continue only when stopped — so the requests units
    see alternate -/
theorem stop_continue_alternate (s : DState) :
    (∀ s' resp rep em, stepCore s .stop = .ok (s', resp, rep, em) →
      (s.paused = false → resp = .jobStop ∧ s'.paused = true) ∧ (s.paused = true → resp = .none ∧ s' = s)) ∧
    (∀ s' resp rep em, stepCore s .continue = .ok (s', resp, rep, em) →
      (s.paused = true → resp = .jobContinue ∧ s'.paused = false) ∧ (s.paused = false → resp = .none ∧ s' = s)) := by
  constructor
  all_goals
    intro s' resp rep em h
    simp only [stepCore] at h
    -- by whether nextest is stopped: either way the clause returns `.ok`, and `h` says what
    split at h
    all_goals
      obtain ⟨rfl, rfl, _, _⟩ := h
      simp_all

/-- **Stop and Continue are broadcast to every running unit, whatever is running** (dispatcher.rs `run`, as translated on this
    run): the arm for a job-control response broadcasts the request unconditionally — not only when a *test* is running (a setup
    script is a unit too; `DState.broadcast` reaches it first) -/
theorem stop_and_continue_are_always_broadcast :
    ("JobControl/Stop", [("stop", true)]) ∈ Gen.responseBroadcasts ∧
    ("JobControl/Continue", [("continue", true)]) ∈ Gen.responseBroadcasts ∧
    Dispatcher.responseRow .jobStop = ("JobControl/Stop", [("stop", true)]) ∧
    Dispatcher.responseRow .jobContinue = ("JobControl/Continue", [("continue", true)]) :=
  ⟨by simp [Gen.responseBroadcasts], by simp [Gen.responseBroadcasts], rfl, rfl⟩

/-- **the Continue arm of `terminate_child`, statement by statement as read from unix.rs on this run, is the model's clause**:
    each of the three clocks is resumed if (and only if) it is paused, and SIGCONT goes to the process group *unconditionally* —
    also when termination began while the unit was stopped and only the unit's own stopwatch is paused -/
theorem terminate_child_continue_arm_is_the_models (c : Cfg) (u : U) (w : Why) (hp : u.phase = .terminating w) :
    interpArm applyTerm guardTerm Gen.terminateChildContinueArm u = onReq c u .cont := by
  -- the flags the guards read as variables, so that `cases` on one fills it in everywhere: on the projection `u.sw.paused` it
  -- would leave `u.sw = { u.sw with paused := false }` to prove in every case
  obtain ⟨_, ⟨_, swPaused⟩, _, ⟨_, gsPaused⟩, ⟨_, wsPaused⟩⟩ := u
  cases hp
  simp only [interpArm_eq, Gen.terminateChildContinueArm, List.foldl_cons, List.foldl_nil]
  cases swPaused <;> cases gsPaused <;> cases wsPaused
  all_goals simp [applyTerm, guardTerm, onReq]

/-- … so is the Stop arm (nothing paused: the dispatcher debounces Stop, `stop_continue_alternate`): the three clocks are
    paused, SIGTSTP goes to the group, the Stop is acknowledged -/
theorem terminate_child_stop_arm_is_the_models (c : Cfg) (u : U) (w : Why) (hp : u.phase = .terminating w)
    (hn : u.sw.paused = false ∧ u.gs.paused = false ∧ u.ws.paused = false) :
    interpArm applyTerm guardTerm Gen.terminateChildStopArm u = onReq c u .stop := by
  simp only [interpArm_eq, Gen.terminateChildStopArm, List.foldl_cons, List.foldl_nil]
  simp [applyTerm, guardTerm, onReq, hp, hn]

/-- … and the Shutdown arm: the whole group is killed at once and `terminate_child` returns -/
theorem terminate_child_shutdown_arm_is_the_models (c : Cfg) (u : U) (w : Why) (hp : u.phase = .terminating w) (sr : ShutReq) :
    interpArm applyTerm guardTerm Gen.terminateChildShutdownArm u = onReq c u (.shutdown sr) := by
  simp only [interpArm_eq, Gen.terminateChildShutdownArm, List.foldl_cons, List.foldl_nil]
  simp [applyTerm, guardTerm, onReq, hp]

/-- **the Stop and Continue arms of `handle_delay_between_attempts`, as read from executor.rs on this run, are the model's clauses
    for a unit between attempts**: Stop pauses the delay and its stopwatch and is acknowledged; Continue resumes both when the
    delay is paused and does nothing otherwise; an information request is answered with the delay phase.  (The arms that end
    the delay are C10's `delay_ending_arms_are_the_models`.) -/
theorem delay_stop_continue_arms_are_the_models (c : Cfg) (u : U) (hp : u.phase = .delay) :
    (u.ds.paused = false → u.ws.paused = false → interpArm applyDelay guardDelay Gen.delayStopArm u = onReq c u .stop) ∧
    (u.ds.paused = u.ws.paused → interpArm applyDelay guardDelay Gen.delayContinueArm u = onReq c u .cont) ∧
    interpArm applyDelay guardDelay Gen.delayGetInfoArm u = onReq c u .getInfo := by
  simp only [interpArm_eq, Gen.delayStopArm, Gen.delayContinueArm, Gen.delayGetInfoArm, List.foldl_cons, List.foldl_nil]
  refine ⟨fun h1 h2 => ?_, fun h => ?_, ?_⟩
  · simp [applyDelay, guardDelay, onReq, hp, h1, h2]
  · cases hd : u.ds.paused <;> simp [applyDelay, guardDelay, onReq, hp, hd, ← h]
  · simp [applyDelay, guardDelay, onReq, hp]

/-- **the arms of `detect_fd_leaks`, as read from executor.rs on this run, are the model's clauses for a unit draining the handles
    of an exited process** (the repair of F12): Stop pauses the attempt's stopwatch and the leak timer, each unless it already is,
    and is acknowledged; Continue resumes each if it is paused; a shutdown signal and a cancellation change nothing -/
theorem draining_arms_are_the_models (c : Cfg) (u : U) (hp : u.phase = .draining) :
    interpArm applyDrain guardDrain Gen.drainStopArm u = onReq c u .stop ∧
    interpArm applyDrain guardDrain Gen.drainContinueArm u = onReq c u .cont ∧
    interpArm applyDrain guardDrain Gen.drainOtherCancelArm u = onReq c u .otherCancel ∧
    (∀ sr, interpArm applyDrain guardDrain Gen.drainAnyOtherSignalArm u = onReq c u (.shutdown sr)) := by
  obtain ⟨_, ⟨_, swPaused⟩, _, _, _, _, _, lsPaused⟩ := u
  cases hp
  simp only [interpArm_eq, Gen.drainStopArm, Gen.drainContinueArm, List.foldl_cons, List.foldl_nil]
  refine ⟨?_, ?_, rfl, fun _ => rfl⟩
  · cases swPaused <;> cases lsPaused
    all_goals simp [applyDrain, guardDrain, onReq]
  · cases swPaused <;> cases lsPaused
    all_goals simp [applyDrain, guardDrain, onReq]

/-- **the job-control arms of `handle_signal_request`, as read from executor.rs on this run, are the model's clauses for a running
    attempt**: Stop pauses the attempt's stopwatch and the slow-timeout interval (each unless it already is), stops the process
    group and is acknowledged; Continue is debounced on the stopwatch — if it is paused it is resumed, the interval is resumed
    if it is paused, and the process group is continued; otherwise nothing happens -/
theorem main_loop_arms_are_the_models (c : Cfg) (u : U) (hp : u.phase = .running) :
    interpArm applyMain guardMain Gen.mainStopArm u = onReq c u .stop ∧
    interpArm applyMain guardMain Gen.mainContinueArm u = onReq c u .cont := by
  obtain ⟨_, ⟨_, swPaused⟩, ⟨_, isPaused⟩⟩ := u
  cases hp
  simp only [interpArm_eq, Gen.mainStopArm, Gen.mainContinueArm, List.foldl_cons, List.foldl_nil]
  constructor
  · cases swPaused <;> cases isPaused
    all_goals simp [applyMain, guardMain, onReq]
  · cases swPaused <;> simp [applyMain, guardMain, onReq]

/-- `PausableSleep` (Model/Unit.PSleep, corresponded in-process with the real type on a paused clock: p_timer) is the model's
    `Timer` plus a remembered duration: advancing the clock is `Timer.tick`, and what is due is the same -/
theorem psleep_is_timer (s : PSleep) (d : Nat) :
    (s.advance d).toTimer = s.toTimer.tick d ∧ (s.toTimer.due = if s.paused then none else some s.remaining) ∧
    (s.fired = true ↔ s.toTimer.due = some 0) := by
  refine ⟨?_, rfl, ?_⟩
  · unfold PSleep.advance PSleep.toTimer Timer.tick
    split <;> simp_all
  · unfold PSleep.fired PSleep.toTimer Timer.due
    cases s.paused <;> simp

private theorem apply_no_reset {s s' : PSleep} {o : SleepOp} (ho : (∃ d, o = .advance d) ∨ o = .pause ∨ o = .resume)
    (h : s.apply o = some s') : s'.duration = s.duration ∧ s'.remaining ≤ s.remaining := by
  rcases ho with ⟨d, rfl⟩ | rfl | rfl <;> cases hp : s.paused
  all_goals simp [PSleep.apply, PSleep.advance, PSleep.pause, PSleep.resume, hp] at h
  -- left: the legal combinations, where `h` says what `s'` is
  all_goals
    subst h
    simp

/-- **stopped time does not count against a `PausableSleep`, and the configured period survives pauses**: over any sequence of
    clock advances, pauses and resumes (no reset), the remembered duration is unchanged — so re-arming after an expiry gives the
    configured period again — and the time counted against the sleep is exactly the time that passed while it was running -/
theorem sleep_counts_running_time_only : ∀ (ops : List SleepOp) (s s' : PSleep),
    (∀ o ∈ ops, (∃ d, o = .advance d) ∨ o = .pause ∨ o = .resume) → s.run ops = some s' →
    s'.duration = s.duration ∧ s'.resetLast.remaining = s.duration ∧ s'.remaining ≤ s.remaining
  | [], s, s', _, h => by
    simp only [PSleep.run, Option.some.injEq] at h
    subst h
    exact ⟨rfl, rfl, Nat.le_refl _⟩
  | o :: os, s, s', hall, h => by
    simp only [PSleep.run] at h
    split at h
    · cases h
    · next s1 hs1 =>
      obtain ⟨hd, hr⟩ := apply_no_reset (hall o (List.mem_cons_self ..)) hs1
      obtain ⟨a, b, c⟩ := sleep_counts_running_time_only os s1 s' (fun o' ho' => hall o' (List.mem_cons_of_mem _ ho')) h
      exact ⟨a.trans hd, b.trans hd, Nat.le_trans c hr⟩

-- not vacuous: a 100 ms sleep; 60 ms pass, paused for 500 ms, 39 ms more: not due; one more: due; re-armed: 100 ms again
example : ((PSleep.new 100).run [.advance 60, .pause, .advance 500, .resume, .advance 39]).map (fun s => (s.fired, s.remaining)) = some (false, 1) ∧
    ((PSleep.new 100).run [.advance 60, .pause, .advance 500, .resume, .advance 40, .resetLast]).map (fun s => (s.fired, s.remaining)) = some (false, 100) := by decide

/-- **the stopwatch counts running time only** (stopwatch.rs `StopwatchStart`, the clock behind every reported duration): for
    every operation sequence without an illegal transition, `snapshot().active` grows by exactly the time that passes while
    the watch is not paused -/
theorem stopwatch_counts_running_time_only (ops : List WatchOp) (w w' : Watch) (h : w.run ops = some w') :
    w'.active = w.active + runningTime w.paused ops := by
  induction ops generalizing w with
  | nil => simp_all [Watch.run, runningTime]
  | cons o os ih =>
    cases o <;> cases hp : w.paused
    all_goals simp [Watch.run, Watch.apply, hp] at h
    -- left: the legal combinations, where `h` is the rest of the run
    all_goals simp [ih _ h, runningTime, Watch.tick, hp, Nat.add_assoc]

/-- non-vacuity: a legal sequence with time passing in both states — 5 running, 7 paused, 3 running — counts 8 -/
example : (({} : Watch).run [.advance 5, .pause, .advance 7, .resume, .advance 3]) = some { active := 8, paused := false } := by decide
example : runningTime false [.advance 5, .pause, .advance 7, .resume, .advance 3] = 8 := by decide
/-- … and the illegal transitions are the panics of stopwatch.rs -/
example : (({} : Watch).run [.pause, .pause]) = none ∧ (({} : Watch).run [.resume]) = none := by decide

end NextestModel.C12
