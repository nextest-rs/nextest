/-
  C06 — per-test settings resolve by the documented precedence, setting by setting.
  Property theorems only.
-/
import NextestModel.Gen.Tables
import NextestModel.Model.Settings
namespace NextestModel.C06
open NextestModel.Settings

/-- Overrides in the documented order, for files given lowest priority first (tool configs last to
    first, then the repository config): the selected profile's overrides from the repository config,
    then from the tool configs in the order given; then the default profile's, in the same order. -/
def specOrder (filesLowToHigh : List File) (name : String) : List Override :=
  (if name == "default" then [] else filesLowToHigh.reverse.flatMap (·.overridesOf name)) ++
  filesLowToHigh.reverse.flatMap (·.overridesOf "default")

/-- each file's `[profile.*]` names are distinct (TOML tables cannot repeat) -/
def WF (files : List File) : Prop := ∀ f ∈ files, (f.profiles.map (·.1)).Nodup

/-- what `make_profile` chains in front of the default profile's overrides: absent and empty are the same to it -/
private def chained (c : Compiled) (n : String) : List Override := (c.other n).getD []

private theorem chained_mergeOther (c : Compiled) (e : String × ProfileFile) (n : String) :
    chained (c.mergeOther e) n = chained c n ++ (if e.1 = n then e.2.overrides.reverse else []) := by
  unfold chained Compiled.mergeOther
  by_cases hn : e.1 = n
  · subst hn
    cases c.other e.1 <;> simp [extendReverse]
  · have : ¬ n = e.1 := fun h => hn h.symm
    simp [hn, this]

private theorem foldl_mergeOther_default (others : List (String × ProfileFile)) (c : Compiled) :
    (others.foldl Compiled.mergeOther c).default = c.default := by
  induction others generalizing c with
  | nil => rfl
  | cons e es ih => exact ih (c.mergeOther e)

private theorem foldl_mergeOther_chained (others : List (String × ProfileFile)) (hnd : (others.map (·.1)).Nodup) (n : String)
    (c : Compiled) : chained (others.foldl Compiled.mergeOther c) n =
      chained c n ++ (match others.find? (fun e => e.1 == n) with | some e => e.2.overrides.reverse | none => []) := by
  induction others generalizing c with
  | nil => simp
  | cons e es ih =>
    obtain ⟨hne, hnd'⟩ := List.nodup_cons.mp hnd
    rw [List.foldl_cons, ih hnd', chained_mergeOther, List.find?_cons]
    by_cases hn : e.1 = n
    · -- the names are distinct: no later entry is for `n` again
      have : es.find? (fun x => x.1 == n) = none :=
        List.find?_eq_none.mpr fun x hx hxe => hne (List.mem_map.mpr ⟨x, hx, (beq_iff_eq.mp hxe).trans hn.symm⟩)
      simp [hn, this]
    · have : (e.1 == n) = false := by simpa using hn
      simp [hn, this]

private theorem addFile_spec (c : Compiled) (f : File) (hnd : (f.profiles.map (·.1)).Nodup) :
    (c.addFile f).default = c.default ++ (f.overridesOf "default").reverse ∧
    ∀ n, n ≠ "default" → chained (c.addFile f) n = chained c n ++ (f.overridesOf n).reverse := by
  unfold Compiled.addFile
  have hnd' : ((f.profiles.filter (fun e => e.1 != "default")).map (·.1)).Nodup :=
    hnd.sublist (List.filter_sublist.map _)
  refine ⟨foldl_mergeOther_default _ _, fun n hn => ?_⟩
  rw [foldl_mergeOther_chained _ hnd' n]
  have hfind : (f.profiles.filter (fun e => e.1 != "default")).find? (fun e => e.1 == n) =
      f.profiles.find? (fun e => e.1 == n) := by
    rw [List.find?_filter]
    congr 1
    funext e
    by_cases he : e.1 = n
    · subst he
      simp [hn]
    · simp [he]
  rw [hfind]
  unfold File.overridesOf File.profile?
  cases f.profiles.find? (fun e => e.1 == n) <;> rfl

/-- every file appends its overrides reversed, so the one `reverse` of `finish` puts the files in the opposite order (highest
    priority first) and each file's overrides back in the order they were written -/
private theorem foldl_addFile_spec (fs : List File) (hwf : WF fs) :
    ∀ c : Compiled,
      (fs.foldl Compiled.addFile c).default = c.default ++ fs.flatMap (fun f => (f.overridesOf "default").reverse) ∧
      ∀ n, n ≠ "default" →
        chained (fs.foldl Compiled.addFile c) n = chained c n ++ fs.flatMap (fun f => (f.overridesOf n).reverse) := by
  induction fs with
  | nil => simp
  | cons f fs ih =>
    intro c
    have hf := addFile_spec c f (hwf f (List.mem_cons_self ..))
    have := ih (fun g hg => hwf g (List.mem_cons_of_mem _ hg)) (c.addFile f)
    rw [List.foldl_cons]
    exact ⟨by rw [this.1, hf.1, List.flatMap_cons, List.append_assoc],
      fun n hn => by rw [this.2 n hn, hf.2 n hn, List.flatMap_cons, List.append_assoc]⟩

private theorem makeProfile_eq (c : Compiled) (name : String) :
    makeProfile c name = (if name == "default" then [] else chained c name) ++ c.default := by
  unfold makeProfile chained
  split
  · rfl
  · cases c.other name <;> rfl

/-- **The compiled override list is the documented search order**, for any number of config files,
    any subset of profiles per file — including profiles first introduced by a lower-priority file
    (the `Vacant`/`Occupied` split) — and any overrides. -/
theorem compiled_order (filesLowToHigh : List File) (hwf : WF filesLowToHigh) (name : String) :
    makeProfile (readFromSources filesLowToHigh) name = specOrder filesLowToHigh name := by
  have hs := foldl_addFile_spec filesLowToHigh hwf Compiled.init
  have hfin : ∀ c : Compiled, c.finish.default = c.default.reverse ∧ ∀ n, chained c.finish n = (chained c n).reverse :=
    fun c => ⟨rfl, fun n => by unfold chained Compiled.finish; cases h : c.other n <;> simp [h]⟩
  rw [makeProfile_eq, readFromSources, (hfin _).1, hs.1, specOrder]
  congr 1
  · split
    · rfl
    · rename_i hn
      rw [(hfin _).2, hs.2 name (by simpa using hn)]
      simp [Compiled.init, chained, List.reverse_flatMap, Function.comp_def, File.overridesOf]
  · simp [Compiled.init, List.reverse_flatMap, Function.comp_def]

/-- The value an override list gives a setting is the value of the first override that applies to
    the test (platform and filter) **and sets that setting**. -/
theorem settings_spec (ovs : List Override) (isHost : Bool) (f : Field) :
    overrideValues ovs isHost f =
      (ovs.filter (·.applies isHost)).findSome? (fun o => getField o.data f) := by
  suffices h : ∀ acc : Field → Option Val, ovs.foldl (settingsStep isHost) acc f =
      (acc f).or ((ovs.filter (·.applies isHost)).findSome? (fun o => getField o.data f)) from h _
  induction ovs with
  | nil => exact fun acc => (Option.or_none ..).symm
  | cons o os ih =>
    intro acc
    rw [List.foldl_cons, ih, settingsStep, List.filter_cons]
    split
    · simp only [List.findSome?_cons]
      cases acc f <;> cases getField o.data f <;> rfl
    · rfl

/-- Each setting is resolved independently of the others: the resolved value of setting `f` is a
    function of the column "(applies?, value of `f`)" alone — changing which overrides set any
    other setting cannot change it. -/
theorem fields_independent (ovs ovs' : List Override) (isHost : Bool) (f : Field)
    (h : ovs.map (fun o => (o.applies isHost, getField o.data f)) =
         ovs'.map (fun o => (o.applies isHost, getField o.data f))) :
    overrideValues ovs isHost f = overrideValues ovs' isHost f := by
  have column (l : List Override) : (l.filter (·.applies isHost)).findSome? (fun o => getField o.data f) =
      (l.map fun o => (o.applies isHost, getField o.data f)).findSome? fun x => if x.1 then x.2 else none := by
    induction l with
    | nil => rfl
    | cons o os ih =>
      rw [List.filter_cons, List.map_cons, List.findSome?_cons]
      cases o.applies isHost
      · exact ih
      · rw [if_pos rfl, List.findSome?_cons, ih]
        rfl
  rw [settings_spec, settings_spec, column, column, h]

/-- The whole resolution, read off the property: the command-line value where one exists
    (`--retries`); otherwise the first override in the documented order that matches the test and
    sets the setting; otherwise the selected profile's value, otherwise the default profile's, where
    the repository config beats tool configs beats built-in defaults. -/
theorem effective_spec (filesLowToHigh : List File) (hwf : WF filesLowToHigh) (name : String)
    (builtin : Field → Val) (cli : Option Val) (isHost : Bool) (f : Field) :
    effective filesLowToHigh name builtin cli isHost f =
      match (if f = .retries then cli else none) with
      | some v => v
      | none =>
        match ((specOrder filesLowToHigh name).filter (·.applies isHost)).findSome? (fun o => getField o.data f) with
        | some v => v
        | none => profileLevel filesLowToHigh.reverse name builtin f := by
  unfold effective
  rw [compiled_order _ hwf, settings_spec]
  -- the model tests the field with `==`, the statement with `=`
  simp only [beq_iff_eq]
  rfl

/-- A `--retries` value replaces every test's policy. -/
theorem cli_retries_wins (filesLowToHigh : List File) (name : String) (builtin : Field → Val)
    (v : Val) (isHost : Bool) :
    effective filesLowToHigh name builtin (some v) isHost .retries = v := by
  simp [effective]

example : WF [⟨[("default", ⟨[], []⟩), ("ci", ⟨[⟨true, true, true, true, [(.retries, 3)]⟩], []⟩)]⟩] := by
  intro f hf
  simp at hf
  subst hf
  decide

/-- **the forced retry policy travels unchanged from the command line to the attempt loop** (imp.rs and executor.rs, as read on this
    run): handed on as given — `--retries 0` included —, and in `run_test_instance` it replaces the test's own policy, which gives
    both the number of attempts and the delays; `cli_retries_wins` is about exactly this value -/
theorem forced_retries_wiring_is_the_models : ∀ r ∈ Gen.retryWiring, r.2 = true := by decide

end NextestModel.C06
