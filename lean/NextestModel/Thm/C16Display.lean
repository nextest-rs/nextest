/-
  C16 — "these captured bytes are what nextest shows for that attempt … subject only to the documented normalisations
  (… removal of ANSI escapes when colour is off, a final newline)": the display side (Model/Display).
  Property theorems only.
-/
import NextestModel.Lemmas.Display
namespace NextestModel.C16Display
open NextestModel.Display

/-- **the description the heuristics pick is a part of the stream it is shown in**: whatever the two streams hold, a panic
    message or an `Error:` text is `stderr[start .. start + len]`, a should-panic note is `stdout[start .. start + len]` — the
    slice expressions of `write_output_with_highlight` are in range for it -/
theorem heuristic_description_in_bounds (so se : Option Bytes) (w : Which) (d : Subslice)
    (h : heuristicExtract so se = some (w, d)) :
    (w = .shouldPanic → ∃ o, so = some o ∧ InBounds o d) ∧ (w ≠ .shouldPanic → ∃ e, se = some e ∧ InBounds e d) := by
  obtain ⟨buf, hb, hin⟩ := heuristicExtract_inBounds h
  exact ⟨fun hw => ⟨buf, by rw [← hb, if_pos hw], hin⟩, fun hw => ⟨buf, by rw [← hb, if_neg hw], hin⟩⟩

/-- **what is shown is what was captured**: for every captured output, colour on or off, and every description that is a part of
    it, writing the output never indexes out of range, and the test's bytes among what is written (nextest's own colour
    sequences left out; the highlighted lines and — colour off — everything go through the ANSI stripper) are, in order,
    exactly the captured bytes followed by one newline, a newline the output ends with not being doubled unless the
    highlight reaches the very end -/
theorem shown_is_captured (colorized : Bool) (output : Bytes) (d : Option Subslice)
    (hd : ∀ x, d = some x → InBounds output x) :
    ∃ ps, writeSingle colorized output d = some ps ∧ (fed ps = output ++ [NL] ∨ fed ps = dropOneNl output ++ [NL]) := by
  unfold writeSingle
  cases colorized with
  | false => exact ⟨_, rfl, Or.inr (by simp [fed])⟩
  | true =>
    cases d with
    | none => exact ⟨_, rfl, Or.inr (by simp [fed])⟩
    | some x =>
      have hb := (hd x rfl).le
      have he := highlightEnd_le x.slice
      obtain ⟨ps, hw⟩ : ∃ ps, writeHighlight output x = some ps :=
        ⟨_, if_pos ⟨Nat.le_trans (Nat.le_add_right ..) hb, Nat.le_trans (Nat.add_le_add_left he _) hb⟩⟩
      refine ⟨ps, hw, ?_⟩
      rw [writeHighlight_fed output x ps hw]
      by_cases hnil : output.drop (x.start + highlightEnd x.slice) = []
      · left
        rw [hnil, List.take_of_length_le (List.drop_eq_nil_iff.mp hnil)]
        simp [dropOneNl]
      · right
        have := dropOneNl_append (output.take (x.start + highlightEnd x.slice)) _ hnil
        rw [List.take_append_drop] at this
        rw [this]

/-- a description picked out of `heuristicExtract`'s result by a selector that only lets through those taken from `buf` -/
private theorem selected_inBounds {so se : Option Bytes} {sel : Which × Subslice → Option Subslice} {buf : Bytes} {x : Subslice}
    (hx : (heuristicExtract so se).bind sel = some x)
    (hsel : ∀ w d, sel (w, d) = some x → d = x ∧ (if w = .shouldPanic then so else se) = some buf) : InBounds buf x := by
  obtain ⟨⟨w, d⟩, hr, hs⟩ := Option.bind_eq_some_iff.mp hx
  obtain ⟨rfl, hbuf⟩ := hsel w d hs
  obtain ⟨buf', hb, hin⟩ := heuristicExtract_inBounds hr
  cases hb.symm.trans hbuf
  exact hin

/-- the three places a stream is shown (`write_child_output`): standard output and standard error of a split capture with the
    description found in them, and a combined capture searched as both — never out of range, all bytes shown -/
theorem every_stream_shown_in_full (colorized : Bool) (so se : Option Bytes) :
    (∀ o, so = some o → ∃ ps, writeSingle colorized o ((heuristicExtract so se).bind stdoutSubslice) = some ps ∧
        (fed ps = o ++ [NL] ∨ fed ps = dropOneNl o ++ [NL])) ∧
    (∀ e, se = some e → ∃ ps, writeSingle colorized e ((heuristicExtract so se).bind stderrSubslice) = some ps ∧
        (fed ps = e ++ [NL] ∨ fed ps = dropOneNl e ++ [NL])) ∧
    (∀ c, so = some c → se = some c → ∃ ps, writeSingle colorized c ((heuristicExtract so se).bind combinedSubslice) = some ps ∧
        (fed ps = c ++ [NL] ∨ fed ps = dropOneNl c ++ [NL])) := by
  refine ⟨fun o ho => shown_is_captured _ _ _ fun x hx => selected_inBounds hx fun w d h => ?_,
    fun e he => shown_is_captured _ _ _ fun x hx => selected_inBounds hx fun w d h => ?_,
    fun c hso hse => shown_is_captured _ _ _ fun x hx => selected_inBounds hx fun w d h => ?_⟩
  -- each selector lets through only the kinds of description taken from its stream
  · cases w <;> simp [stdoutSubslice, ho] at h ⊢ <;> exact h
  · cases w <;> simp [stderrSubslice, he] at h ⊢ <;> exact h
  · cases w <;> simp [combinedSubslice, hso, hse] at h ⊢ <;> exact h

/-- with colour off and an output without escape sequences (the stripper leaves it alone), what reaches the terminal is the
    fed bytes themselves -/
theorem render_plain (ps : List Piece) : render id (fun _ => []) ps = fed ps := by
  induction ps with
  | nil => rfl
  | cons p ps ih => cases p <;> simp [render, fed, ih]

-- not vacuous: a panic message after an `Error:` line, in the middle of the output (the highlight ends at the second newline)
example : heuristicPanicMessage (ascii "x\nError: e\nthread 'a' panicked at b\nc\nd\n\n") =
    some { start := 2, slice := ascii "Error: e\nthread 'a' panicked at b\nc\nd" } := by
  rw [ascii_ofList, ascii_ofList]
  decide +kernel
example : (writeSingle true (ascii "x\nError: e\nthread 'a' panicked at b\nc\n") (some { start := 2, slice := ascii "Error: e\nthread 'a' panicked at b\nc" })).map fed =
    some (ascii "x\nError: e\nthread 'a' panicked at b\nc\n") := by
  rw [ascii_ofList, ascii_ofList]
  decide +kernel
-- a description that is not a part of the output makes the slice expression panic: the hypothesis is needed
example : writeSingle true (ascii "ab") (some { start := 3, slice := [] }) = none := by decide

end NextestModel.C16Display
