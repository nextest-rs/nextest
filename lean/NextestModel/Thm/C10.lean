/-
  C10 — after cancellation begins nothing new starts; cancellation only escalates.
  Property theorems only: statements about `Dispatcher.step` / `Dispatcher.run` for EVERY state and
  EVERY event (hence every order in which start requests, results, retry requests, script results,
  signals and reporter errors can reach the dispatcher); about the dispatcher × units system (`System.runActs`)
  for every interleaving; the dispatcher composed with the attempt loop (`Model/Attempts`); and the arms
  of `handle_delay_between_attempts` and of the run loop as read from the source.
-/
import NextestModel.Lemmas.System
import NextestModel.Thm.C07
import NextestModel.Thm.C02
import NextestModel.Model.Dispatcher
import NextestModel.Lemmas.Unit
import NextestModel.Gen.Tables
namespace NextestModel.C10
open NextestModel.Dispatcher

/-- The documented order: setup-script failure < test failure < report error < termination signal
    < interrupt < second signal. -/
theorem order_documented :
    [CancelReason.setupScriptFailure, .testFailure, .reportError, .signal, .interrupt, .secondSignal].map
      CancelReason.rank = [0, 1, 2, 3, 4, 5] := by decide

/-- **Cancellation only escalates**: no event ever lowers the cancel state's severity, and a
    cancelled run stays cancelled. -/
theorem cancel_monotone (s : DState) (e : DEvent) (s' : DState) (o : Out)
    (h : step s e = .ok (s', o)) : sev s.cancel ≤ sev s'.cancel :=
  (step_handled h).sev_le

/-- **Once a run is being cancelled nothing new starts**: in a cancelled state, every start
    request — test, retry or setup script — is refused (its oneshot is dropped, never answered) and
    no `TestStarted` / `TestRetryStarted` / `SetupScriptStarted` event is emitted, whatever the event. -/
theorem no_start_after_cancel (s : DState) (e : DEvent) (s' : DState) (o : Out)
    (hc : s.cancel.isSome) (h : step s e = .ok (s', o)) :
    o.reply ≠ .ack ∧ ∀ em ∈ o.emitted, isStart em = false :=
  ⟨(step_handled h).refused hc, (step_handled h).no_start hc⟩

/-- **Each cancellation notice is announced at most once, and only when it escalates**: a
    `RunBeginCancel{reason}` is emitted only by a step that strictly raises the severity to exactly
    that reason — so (by `cancel_monotone`) no reason can be announced twice in one run. -/
theorem announce_only_on_escalation (s : DState) (e : DEvent) (s' : DState) (o : Out)
    (h : step s e = .ok (s', o)) (q : CancelReason) (sc rn : Nat)
    (hq : Emitted.runBeginCancel q sc rn ∈ o.emitted) :
    sev s.cancel < sev (some q) ∧ s'.cancel = some q :=
  (step_handled h).of_announce hq

/-- lifted to whole runs: after the dispatcher is cancelled, no later step of the run emits a start
    event or answers a start request -/
theorem run_no_start_after_cancel (s : DState) (es : List DEvent) (s' : DState) (outs : List Out)
    (hc : s.cancel.isSome) (h : run s es = .ok (s', outs)) :
    ∀ o ∈ outs, o.reply ≠ .ack ∧ ∀ em ∈ o.emitted, isStart em = false := by
  intro o ho
  induction es generalizing s outs with
  | nil =>
    cases h
    cases ho
  | cons e es ih =>
    obtain ⟨s1, o1, os, hstep, hrun, rfl⟩ := run_cons_ok h
    rcases List.mem_cons.mp ho with rfl | ho
    · exact no_start_after_cancel s e s1 _ hc hstep
    · exact ih s1 os ((step_handled hstep).stays_cancelled hc) hrun ho

/-- the severities announced along a run, in order -/
def announced : List Out → List Nat
  | [] => []
  | o :: os => annOf o.emitted ++ announced os

/-- Along any run the announced severities are strictly increasing and above the starting severity:
    cancellation notices only escalate and each is announced at most once. -/
theorem run_announcements_escalate (s : DState) (es : List DEvent) (s' : DState) (outs : List Out)
    (h : run s es = .ok (s', outs)) :
    (announced outs).Pairwise (· < ·) ∧ (∀ r ∈ announced outs, sev s.cancel < r) ∧ sev s.cancel ≤ sev s'.cancel := by
  induction es generalizing s outs with
  | nil => cases h; simp [announced]
  | cons e es ih =>
    obtain ⟨s1, o1, os, hstep, hrun, rfl⟩ := run_cons_ok h
    obtain ⟨ih1, ih2, ih3⟩ := ih s1 os hrun
    have hm := cancel_monotone s e s1 o1 hstep
    -- the first step announces nothing, or the severity it raises the cancel state to, and what comes later is above that
    show (annOf o1.emitted ++ announced os).Pairwise (· < ·) ∧ (∀ r ∈ annOf o1.emitted ++ announced os, _) ∧ _
    rcases (step_handled hstep).announced with h0 | ⟨hlt, h1⟩
    · rw [h0]
      exact ⟨ih1, fun r hr => Nat.lt_of_le_of_lt hm (ih2 r hr), Nat.le_trans hm ih3⟩
    · rw [h1]
      refine ⟨List.pairwise_cons.mpr ⟨ih2, ih1⟩, fun r hr => ?_, Nat.le_trans hm ih3⟩
      rcases List.mem_cons.mp hr with rfl | hr
      · exact hlt
      · exact Nat.lt_trans hlt (ih2 r hr)

private theorem beginCancel_fresh (s : DState) (q : CancelReason) (rsp : Response) (hc : s.cancel = none)
    (hr : (rsp == Response.cancelSignal .twice) = false) :
    beginCancel s q rsp = ({ s with cancel := some q }, rsp, [.runBeginCancel q s.scriptsRunning s.running.length]) := by
  simp [beginCancel, hc, hr, cancelLt]

/-- **Test-failure cancellation begins exactly when the failure limit is reached.**  When a test
    finishes in a run that is not yet cancelled, `RunBeginCancel{TestFailure}` is emitted in that
    very step iff the number of failed tests (failed + exec-failed + timed-out) has reached `N`. -/
theorem maxfail_exact (s : DState) (i : Nat) (r : Res) (slow : Bool) (st : DState) (resp : Response)
    (reply : Reply) (em : List Emitted) (n : Nat) (hmf : s.maxFail = .count n) (hc : s.cancel = none)
    (h : stepCore s (.finished i r slow) = .ok (st, resp, reply, em)) :
    (∃ sc rn, Emitted.runBeginCancel .testFailure sc rn ∈ em) ↔ n ≤ st.stats.failedCount := by
  obtain ⟨s1, em0, rfl, rfl, hx⟩ := stepCore_finished h
  simp only [hmf, MaxFail.isExceeded, decide_eq_true_eq] at hx
  split at hx
  · rename_i hreached
    rw [withCancel, beginCancel_fresh (s.afterFinish i _) _ .cancelTestFailure hc rfl] at hx
    cases hx
    exact ⟨fun _ => hreached, fun _ => ⟨_, _, List.mem_append_right _ (List.mem_singleton.mpr rfl)⟩⟩
  · rename_i hbelow
    cases hx
    exact ⟨fun ⟨_, _, hm⟩ => (nomatch List.mem_singleton.mp hm), fun hn => absurd hn hbelow⟩

/-- With no-fail-fast (`MaxFail::All`) a finishing test never cancels the run. -/
theorem no_fail_fast_never_cancels (s : DState) (i : Nat) (r : Res) (slow : Bool) (st : DState)
    (resp : Response) (reply : Reply) (em : List Emitted) (hmf : s.maxFail = .all)
    (h : stepCore s (.finished i r slow) = .ok (st, resp, reply, em)) :
    resp = .none ∧ st.cancel = s.cancel ∧ ∀ q sc rn, Emitted.runBeginCancel q sc rn ∉ em := by
  obtain ⟨s1, em0, rfl, rfl, hx⟩ := stepCore_finished h
  simp only [hmf, MaxFail.isExceeded, Bool.false_eq_true, if_false] at hx
  cases hx
  exact ⟨rfl, rfl, fun q sc rn hm => nomatch List.mem_singleton.mp hm⟩

/-- an un-cancelled run has fewer than `n` failed tests -/
def BelowLimit (n : Nat) (s : DState) : Prop := s.cancel = none → s.stats.failedCount < n

/-- …so, from the start of a run with `max-fail = N ≥ 1`, "reached `N`" in `maxfail_exact` means
    "this is the `N`-th failure": the invariant holds initially and is preserved by every event. -/
theorem below_limit_init (n k : Nat) (hn : 0 < n) : BelowLimit n (DState.init k (.count n)) := by
  intro _; simp [DState.init, Stats.failedCount]; exact hn

theorem below_limit_step (n : Nat) (s : DState) (e : DEvent) (st : DState) (resp : Response) (reply : Reply)
    (em : List Emitted) (hmf : s.maxFail = .count n) (hinv : BelowLimit n s)
    (h : stepCore s e = .ok (st, resp, reply, em)) : BelowLimit n st := by
  intro hcn
  have hh := stepCore_ok h
  have hsc : s.cancel = none := Option.not_isSome_iff_eq_none.mp fun hc => by
    have := hh.stays_cancelled hc
    rw [hcn] at this
    cases this
  have hlt := hinv hsc
  cases e
  case finished i r sl =>
    -- had the limit been reached, the cancellation would have been announced and recorded (`maxfail_exact`)
    apply Nat.lt_of_not_le
    intro hge
    obtain ⟨sc, rn, hm⟩ := (maxfail_exact s i r sl st resp reply em n hmf hsc h).mpr hge
    rw [(hh.of_announce hm).2] at hcn
    cases hcn
  case scriptFinished a r =>
    rw [hh.stats, statsEffect, (s.stats.onScriptFinished_counts r).failedCount]
    exact hlt
  -- no other event touches the three counters of failed tests
  all_goals
    rw [hh.stats]
    exact hlt

/-- A failing setup script always cancels an un-cancelled run, whatever the fail-fast setting. -/
theorem script_failure_always_cancels (s : DState) (idx : Nat) (r : Res) (st : DState) (resp : Response)
    (reply : Reply) (em : List Emitted) (hr : r.isSuccess = false) (hc : s.cancel = none)
    (h : stepCore s (.scriptFinished idx r) = .ok (st, resp, reply, em)) :
    st.cancel = some .setupScriptFailure ∧ resp = .cancelTestFailure := by
  simp only [stepCore] at h
  split at h
  · cases h
  · simp only [hr, Bool.not_false, if_true, Except.ok.injEq, withCancel, Prod.mk.injEq] at h
    obtain ⟨rfl, rfl, _, _⟩ := h
    unfold beginCancel
    simp [hc, cancelLt]

/-- Tests already running are left to finish unless the cause is a signal: a cancellation for test
    failure, setup-script failure or reporter error only ever broadcasts `OtherCancel`; a shutdown
    signal broadcasts that same signal; a second one broadcasts the kill request. -/
theorem cancel_requests (resp : Response) :
    responseRequest resp = (match resp with
      | .cancelReport => some .otherCancel
      | .cancelTestFailure => some .otherCancel
      | .cancelSignal r => some (.shutdown r)
      | .jobStop => some .stop
      | .jobContinue => some .continue
      | .info => some .getInfo
      | .none => none) := by
  cases resp <;> rfl

/-- **A cancelled run does not sit out retry delays** (dispatcher half): a unit that reports a failed
    attempt with a retry to come, while the run is being cancelled — possibly having consumed the
    broadcast cancellation earlier, while its attempt was still running, where it is ignored — is sent the
    cancellation again by that very step; the unit's retry-delay loop leaves on it (C07/C10, unit model)
    and its `RetryStarted` is then refused (`no_start_after_cancel`). -/
theorem cancelled_retry_delay_is_notified (s : DState) (i : Nat) (r : Res) (slow : Bool) (s' : DState) (o : Out)
    (hc : s.cancel.isSome) (hreg : s.running.any (·.1 == i) = true) (hopen : s.rxOpen.contains i = true)
    (h : step s (.attemptFailedWillRetry i r slow) = .ok (s', o)) :
    (some i, Req.otherCancel) ∈ o.delivered :=
  System.retry_notified h (Option.isSome_iff_ne_none.mp hc) ⟨hreg, hopen⟩

/-- … and an un-cancelled run sends nothing extra: outside cancellation the only requests a step
    delivers are the broadcast of its response -/
theorem no_direct_delivery_unless_cancelled (s : DState) (e : DEvent) (hc : s.cancel = none) :
    directDelivery s e = [] := by
  cases e with
  | attemptFailedWillRetry => simp [directDelivery, hc]
  | _ => rfl

-- two facts that nothing uses
private theorem beginCancel_reason (s : DState) (reason : CancelReason) (resp : Response) (q : CancelReason) (sc rn : Nat) :
    Emitted.runBeginCancel q sc rn ∈ (beginCancel s reason resp).2.2 ↔
      (q = reason ∧ sc = s.scriptsRunning ∧ rn = s.running.length ∧ (resp == Response.cancelSignal .twice) = false ∧ cancelLt s.cancel reason = true) := by
  unfold beginCancel
  by_cases h1 : (resp == Response.cancelSignal ShutdownReq.twice) = true
  · simp [h1]
  · simp only [h1, Bool.false_eq_true, if_false]
    by_cases h2 : cancelLt s.cancel reason = true
    · simp [h2]
    · simp [h2]

private theorem failedCount_step (s : Stats) (r : Res) (slow : Bool) (n : Nat) :
    (s.onTestFinished r slow n).failedCount = s.failedCount + (if r.isSuccess then 0 else 1) := by
  rw [(s.onTestFinished_counts r slow n).failedCount]
  cases r.isSuccess <;> rfl

example : ∃ s o, run (DState.init 2 (.count 1)) [.started 0, .started 1, .finished 0 (.fail none false) false, .started 1] = .ok (s, o)
    ∧ s.cancel = some .testFailure := by
  refine ⟨_, _, rfl, rfl⟩

section system
open NextestModel.System

/-- **A cancelled run never has a unit that would sit out its retry delay** — for every number of tests, every max-fail
    setting and EVERY interleaving of scheduling, attempts ending, requests being read, timers, signals, reporter errors and
    message deliveries (`runActs`: any action list from the initial state): whenever the run is being cancelled and a unit is
    waiting out a retry delay, a cancellation request is in that unit's mailbox, or its `AttemptFailedWillRetry` is still on
    its way to the dispatcher, which answers it with one.  (False before the repair of F5: a unit that had consumed the
    broadcast while its attempt was running entered the delay with an empty mailbox.) -/
theorem no_delay_sat_out (n : Nat) (mf : MaxFail) (acts : List Act) (s : Sys) (h : runActs (Sys.init n mf) acts = some s)
    (i : Nat) (hd : s.phase i = .delay) (hc : s.d.cancel ≠ none) : WakePending s i :=
  (reach h).1.wake i hd hc

/-- … and a pending wake-up in the mailbox does end the delay: reading at most as many requests as the mailbox holds, the
    unit leaves the delay and asks to start its retry — which a cancelled dispatcher refuses (`no_start_after_cancel`) -/
theorem wake_ends_delay : ∀ (m : List Req) (s : Sys) (i : Nat), s.mail i = m → s.phase i = .delay → (∃ r ∈ m, isWake r = true) →
    ∃ k s', k ≤ m.length ∧ runActs s (List.replicate k (.recv i)) = some s' ∧ s'.phase i = .waitRetry := by
  intro m
  induction m with
  | nil => intro s i _ _ ⟨r, hr, _⟩; cases hr
  | cons r rest ih =>
    intro s i hm hp hw
    by_cases hwk : isWake r = true
    · refine ⟨1, send (setPhase (setMail s i rest) i .waitRetry) (.retryStarted i 0 0), Nat.le_add_left 1 _, ?_, ?_⟩
      · simp only [List.replicate, runActs, step_iff.mpr (.wake hm hp hwk)]
      · simp [send, setPhase]
    · have hwk' : isWake r = false := Bool.eq_false_iff.mpr hwk
      obtain ⟨k, s', hk, hrun, hph⟩ :=
        ih (setMail s i rest) i (by simp [setMail]) (by simpa [setMail] using hp) (wake_in_rest hw hwk')
      refine ⟨k + 1, s', Nat.succ_le_succ hk, ?_, hph⟩
      simp only [List.replicate, runActs, step_iff.mpr (.read hm (Or.inr (Or.inr ⟨hp, hwk'⟩)))]
      exact hrun

/-- **Running tests are left to finish**: whatever request a unit reads while its attempt is in progress, it stays in that
    attempt and sends nothing to the dispatcher — only the process's own end (or, for a signal, the termination the unit model
    describes) ends it -/
theorem running_left_to_finish (s : Sys) (i : Nat) (s' : Sys) (hp : s.phase i = .running) (h : System.step s (.recv i) = some s') :
    s'.phase i = .running ∧ s'.chan = s.chan := by
  cases step_iff.mp h with
  | move hm => cases hm
  | read => exact ⟨by simpa [setMail] using hp, rfl⟩
  | wake _ hd =>
    rw [hp] at hd
    cases hd

/-- **A unit whose attempt runs, or that is between attempts, is always reachable by a broadcast** (registered with an open
    receiver) — in every reachable state; this is what makes "the signal / the cancellation reaches every running test" true
    of the whole system and not only of the dispatcher's bookkeeping -/
theorem running_units_are_registered (n : Nat) (mf : MaxFail) (acts : List Act) (s : Sys)
    (h : runActs (Sys.init n mf) acts = some s) (i : Nat)
    (hp : s.phase i = .running ∨ s.phase i = .delay ∨ s.phase i = .waitRetry) :
    s.d.running.any (·.1 == i) = true ∧ s.d.rxOpen.contains i = true :=
  (reach h).1.reg i hp

-- non-vacuity: F5's schedule.  Test 0 fails with a retry to come while test 1's failure has already cancelled the run and
-- test 0 has already read (and ignored) the broadcast: it enters the delay with an empty mailbox, and the dispatcher's
-- answer to its AttemptFailedWillRetry wakes it
example : (runActs (Sys.init 2 (.count 1))
      [.dispatch 0, .deliver, .dispatch 1, .deliver, .exitFinish 1 (.fail none false) false, .deliver, .recv 0,
       .exitRetry 0 (.fail none false) false]).map (fun s => (decide (s.phase 0 = .delay), s.d.cancel, s.mail 0, s.chan))
    = some (true, some .testFailure, [], [.attemptFailedWillRetry 0 (.fail none false) false]) := by decide
example : (runActs (Sys.init 2 (.count 1))
      [.dispatch 0, .deliver, .dispatch 1, .deliver, .exitFinish 1 (.fail none false) false, .deliver, .recv 0,
       .exitRetry 0 (.fail none false) false, .deliver, .recv 0, .deliver]).map (fun s => (s.phase 0, s.mail 0))
    = some (.gone, []) := by decide

end system

def reasonName : CancelReason → String
  | .setupScriptFailure => "SetupScriptFailure" | .testFailure => "TestFailure" | .reportError => "ReportError"
  | .signal => "Signal" | .interrupt => "Interrupt" | .secondSignal => "SecondSignal"

/-- The severity order used by the model is the declaration order of `CancelReason` in
    nextest-runner/src/reporter/events.rs as extracted on this run. -/
theorem cancel_order_matches_source :
    Gen.cancelReasonOrder =
      [CancelReason.setupScriptFailure, .testFailure, .reportError, .signal, .interrupt, .secondSignal].map reasonName :=
  -- `rfl` compares the string literals as they stand; `decide` would run `String.decEq` on them, character by character
  rfl

/-- does the dispatcher, in state `s`, acknowledge the start-type request `e`? (a panic answers nothing) -/
def acks (s : DState) (e : DEvent) : Bool :=
  match step s e with
  | .ok (_, o) => decide (o.reply = .ack)
  | .error _ => false

/-- **a unit that asks a cancelled dispatcher for permission to start spawns nothing**: composing the dispatcher model with the
    attempt loop of `run_test_instance` (`Model/Attempts`) — whatever the retry policy and whatever the test would do -/
theorem cancelled_dispatcher_starts_no_unit (s : DState) (hc : s.cancel.isSome) (i : Nat) (p : Classify.Policy)
    (outcome : Nat → Res) (ackRetry : Nat → Bool) (evs : List Attempts.XEv)
    (h : Attempts.runTestInstance p { outcome := outcome, ackStart := acks s (.started i), ackRetry := ackRetry } = some evs) :
    Attempts.spawns evs = [] ∧ Attempts.finisheds evs = [] := by
  have hno : acks s (.started i) = false := by
    unfold acks
    cases hs : step s (.started i) with
    | error e => rfl
    | ok r =>
      obtain ⟨s', o⟩ := r
      have := (no_start_after_cancel s _ s' o hc hs).1
      simp [this]
  exact NextestModel.C02.refused_start_runs_nothing p _ evs h hno

/-- **and a unit already running when cancellation begins makes no further attempt**: if every retry request it sends from
    attempt `k₀` on reaches a cancelled dispatcher (cancellation never recedes: `cancel_monotone`), no attempt `≥ k₀` is spawned -/
theorem cancelled_dispatcher_refuses_retries (p : Classify.Policy) (env : Attempts.Env) (evs : List Attempts.XEv)
    (h : Attempts.runTestInstance p env = some evs) (k0 : Nat) (hk0 : 1 < k0)
    (hrefuse : ∀ k, k0 ≤ k → env.ackRetry k = false) : ∀ k ∈ Attempts.spawns evs, k < k0 := by
  intro k hk
  rcases NextestModel.C07.no_retry_unless_acknowledged p env evs h k hk with h1 | h2
  · exact Nat.lt_of_le_of_lt h1 hk0
  · cases Nat.lt_or_ge k k0 with
    | inl hlt => exact hlt
    | inr hge => rw [hrefuse k hge] at h2; cases h2

open NextestModel.Unit in
/-- **the arms of `handle_delay_between_attempts` that end the delay, as read from executor.rs on this run, are the unit model's**:
    a shutdown request and a cancellation for another reason each `break` out of the delay at once, whatever is left of it —
    the executor half of "the run ends rather than sitting out retry delays" (the dispatcher half: `no_delay_sat_out`) -/
theorem delay_ending_arms_are_the_models (c : Unit.Cfg) (u : Unit.U) (hp : u.phase = .delay) :
    (∀ sr, interpArm applyDelay guardDelay Gen.delayShutdownArm u = Unit.onReq c u (.shutdown sr)) ∧
    interpArm applyDelay guardDelay Gen.delayOtherCancelArm u = Unit.onReq c u .otherCancel := by
  simp only [interpArm_eq, Gen.delayShutdownArm, Gen.delayOtherCancelArm, List.foldl_cons, List.foldl_nil]
  simp [applyDelay, guardDelay, onReq, hp]

/-- **the run loop tells the units what the model says it tells them** (dispatcher.rs `run`, the `match` on `handle_event`'s
    response, as translated on this run): for every response the arm's broadcasts are exactly the model's `responseRequest`, each
    made unconditionally — in particular a cancellation that begins because *reporting failed* is broadcast like one that a test
    failure began (a unit sitting out a retry delay ends it on that request: `C07Unit.cancellation_ends_the_delay`), and a shutdown
    signal is broadcast with the arm's own request; no arm is listed twice -/
theorem run_loop_broadcasts_are_the_models (r : Response) :
    responseRow r ∈ Gen.responseBroadcasts ∧ (Gen.responseBroadcasts.map (·.1)).Nodup := by
  -- the table is searched by `simp`, which decides equations between string literals by a procedure of its own
  refine ⟨?_, by simp [Gen.responseBroadcasts]⟩
  cases r <;> simp [Gen.responseBroadcasts, responseRow, respName, responseRequest, reqName]

end NextestModel.C10
