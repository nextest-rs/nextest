/-
  C15 — each attempt is a fresh process with the exact argv, directory and environment.
  Property theorems only (argv shape and environment precedence; process-group leadership, the null
  stdin and the working directory are OS effects observed end-to-end).
-/
import NextestModel.Gen.Tables
import NextestModel.Model.Command
import NextestModel.Lemmas.Shell
namespace NextestModel.C15
open NextestModel.Command

/-- the arguments are exactly `--exact <name> --nocapture`, then `--ignored` iff the test is
    ignored, then the configured extra arguments — for any test name whatsoever -/
theorem argv_exact (name : String) (ignored : Bool) (extra : List String) :
    argv name ignored extra = "--exact" :: name :: "--nocapture" :: ((if ignored then ["--ignored"] else []) ++ extra) := by
  cases ignored <;> simp [argv]

/-- `Command::env`: the last write of a key wins -/
private theorem lookup_append (a b : Writes) (k : String) : lookup (a ++ b) k = (lookup b k).or (lookup a k) := by
  simp only [lookup, List.reverse_append, List.find?_append]
  cases b.reverse.find? (·.1 == k) <;> rfl

private theorem lookup_nil (k : String) : lookup [] k = none := rfl

private theorem lookup_cons (e : String × String) (ws : Writes) (k : String) :
    lookup (e :: ws) k = (lookup ws k).or (if e.1 = k then some e.2 else none) := by
  refine (lookup_append [e] ws k).trans (congrArg _ ?_)
  by_cases h : e.1 = k <;> simp [lookup, h]

/-- what nextest writes for each of the listed variables -/
def nextestValue (profile manifestDir runId : String) (k : String) : String :=
  if k = "NEXTEST" then "1" else if k = "NEXTEST_EXECUTION_MODE" then "process-per-test"
  else if k = "NEXTEST_PROFILE" then profile else if k = "CARGO_MANIFEST_DIR" then manifestDir else runId

/-- **Variables that nextest sets are not overridden by the inherited environment or by Cargo's
    `[env]` configuration** — whatever those contain (including the same keys): for each of the
    listed variables the process sees nextest's value, provided no later per-test / setup-script
    write names that key. -/
theorem nextest_vars_win (inherited cargoEnv buildScriptEnv : Writes) (profile manifestDir : String)
    (pkgVars : Writes) (runId attempt : String) (perTest scriptEnv : Writes)
    (k : String) (hk : k ∈ ["NEXTEST", "NEXTEST_EXECUTION_MODE", "NEXTEST_PROFILE", "CARGO_MANIFEST_DIR", "NEXTEST_RUN_ID"])
    (hpkg : lookup pkgVars k = none) (hpt : lookup perTest k = none) (hse : lookup scriptEnv k = none) :
    lookup (testEnv inherited cargoEnv buildScriptEnv profile manifestDir pkgVars runId attempt perTest scriptEnv) k =
      some (nextestValue profile manifestDir runId k) := by
  simp only [testEnv, commandEnv, lookup_append, hse, hpt, hpkg, Option.none_or]
  simp only [List.mem_cons, List.mem_nil_iff, or_false] at hk
  rcases hk with rfl | rfl | rfl | rfl | rfl <;> simp [lookup_cons, lookup_nil, nextestValue]

/-- the run id is one value for the whole run: it is a parameter of the run, not of the test -/
theorem run_id_constant (i1 c1 b1 i2 c2 b2 : Writes) (p1 m1 p2 m2 : String) (pk1 pk2 : Writes) (runId a1 a2 : String)
    (h1 : lookup pk1 "NEXTEST_RUN_ID" = none) (h2 : lookup pk2 "NEXTEST_RUN_ID" = none) :
    lookup (testEnv i1 c1 b1 p1 m1 pk1 runId a1 [] []) "NEXTEST_RUN_ID" =
    lookup (testEnv i2 c2 b2 p2 m2 pk2 runId a2 [] []) "NEXTEST_RUN_ID" := by
  rw [nextest_vars_win i1 c1 b1 p1 m1 pk1 runId a1 [] [] "NEXTEST_RUN_ID" (by simp) h1 rfl rfl,
      nextest_vars_win i2 c2 b2 p2 m2 pk2 runId a2 [] [] "NEXTEST_RUN_ID" (by simp) h2 rfl rfl]
  simp [nextestValue]

/-- **`shell_words::split ∘ shell_words::join = id`** for every list of words over every Unicode scalar value
    (empty words, blanks, both quotes, backslashes, `$`, `#`, newlines, …): every word but the last is read back and
    followed by a blank (`Shell.go_words`, by induction over the word list), then the last one (`Shell.go_quote`: the plain
    style, and the quoted styles as one, against `split`'s eight-state machine). -/
theorem shell_roundtrip (ws : List (List Char)) : Shell.split (Shell.join ws) = some ws := by
  rcases List.eq_nil_or_concat ws with rfl | ⟨init, w, rfl⟩
  · rfl
  · rw [List.concat_eq_append, Shell.join_concat, Shell.split, Shell.go_words]
    simpa [Shell.splitGo] using Shell.go_quote w [] init

/-- **the double-spawn launcher is transparent**: whatever the program path and the arguments (hence for any
    test name whatsoever), the process that finally runs has argv `program :: args` — the same as without
    the launcher -/
theorem double_spawn_transparent (exe : Option (List Char)) (program : List Char) (args : List (List Char)) :
    finalArgv exe program args = some (program :: args) := by
  cases exe with
  | none => simp [finalArgv, createCommand]
  | some e => simp [finalArgv, createCommand, doubleSpawnExec, shell_roundtrip]

/-- `quote` never produces an unterminated quote: `split` of any `join` is not a parse error, so
    `DoubleSpawnParseArgsError` is unreachable from `create_command` -/
theorem double_spawn_never_parse_error (ws : List (List Char)) : Shell.split (Shell.join ws) ≠ none := by
  rw [shell_roundtrip]; simp

-- non-vacuity: a hostile test name goes through the launcher unchanged
example : finalArgv (some "cargo-nextest".toList) "/t/bin".toList
    ["--exact".toList, "it's a \"test\" $x\n#y".toList, "--nocapture".toList, [], "'".toList] =
    some ["/t/bin".toList, "--exact".toList, "it's a \"test\" $x\n#y".toList, "--nocapture".toList, [], "'".toList] := by
  -- `rw`, not `simp`: a literal unifies with `String.ofList _`, and the kernel is spared decoding each literal from UTF-8
  rw [String.toList_ofList, String.toList_ofList, String.toList_ofList, String.toList_ofList, String.toList_ofList,
    String.toList_ofList]
  decide +kernel

/-- **how an attempt's command is prepared** (executor.rs `run_test_inner` and unix.rs, as read on this run): `make_command` with the
    test's extra arguments, then the attempt number and `NEXTEST_RUN_ID` (the run's one id), the slot variables, standard input
    from the null device, the setup scripts' variables, and `process_group(0)` — the child is the leader of its own group; a fresh
    command per attempt -/
theorem spawn_setup_is_as_stated : ∀ r ∈ Gen.spawnSetup, r.2 = true := by decide

end NextestModel.C15
