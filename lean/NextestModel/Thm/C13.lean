/-
  C13 — partition shards are disjoint, cover the selection, and are stable as documented.
  Property theorems only.  Every `theorem` in this file is counted as a proof obligation by the
  check and audited with `#print axioms`.

  The partitioner theorems are proved for an arbitrary name hash `h`; the model instantiates
  `h := nameHash` = xxHash64 with seed 0 (`hash_is_xxh64`), whose implementation is pinned to the
  published reference vectors (`xxh64_reference`) and to the `xxhash-rust` crate by the
  correspondence stream `xxh`.
-/
import NextestModel.Lemmas.Filter
namespace NextestModel.C13
open NextestModel

def countP (m n : Nat) : Partition := { kind := .count, shard := m, total := n }
def hashP (m n : Nat) : Partition := { kind := .hash, shard := m, total := n }

/-- Count sharding gives shard `m` every `n`-th candidate in list order beginning with the `m`-th:
    the candidate at index `i` is selected iff `i % n = m - 1`. -/
theorem count_every_nth (m n : Nat) (hn : 0 < n) (L : List Name) :
    Partition.run (countP m n) 0 L = (List.range L.length).map (fun i => i % n == m - 1) := by
  simpa [Partition.run, countP] using count_run_from nameHash m n hn L 0 hn

/-- Whether a name is in hash shard `m/n` is a function of its bytes and `n` only: partitioner
    state, position and the other candidates are irrelevant (adding, removing or filtering other
    tests never moves it). -/
theorem hash_depends_on_name_only (m n : Nat) (L : List Name) (c : Nat) :
    Partition.run (hashP m n) c L = L.map (hashMatchesWith nameHash m n) :=
  hash_run_map nameHash m n L c

/-- and the hash is xxHash64 with seed 0, reduced modulo `n` and compared with `m - 1`. -/
theorem hash_is_xxh64 :
    nameHash = (fun name => (XXH64.xxh64 name 0).toNat) ∧
    ∀ (h : Name → Nat) m n name, (hashMatchesWith h m n name = true ↔ h name % n = m - 1) := by
  refine ⟨rfl, ?_⟩
  intro h m n name
  unfold hashMatchesWith
  exact beq_iff_eq

/-- For every candidate list and both kinds of sharding, every candidate (position `i`) is
    selected by exactly one shard `m ∈ 1..n`: the shards are pairwise disjoint and cover. -/
theorem shards_partition (k : PartKind) (n : Nat) (hn : 0 < n) (L : List Name) (i : Nat) (hi : i < L.length) :
    ∃ m, 1 ≤ m ∧ m ≤ n ∧ (Partition.run { kind := k, shard := m, total := n } 0 L)[i]? = some true ∧
      ∀ m', 1 ≤ m' → m' ≤ n →
        (Partition.run { kind := k, shard := m', total := n } 0 L)[i]? = some true → m' = m :=
  shards_partition_gen nameHash k n hn L i hi

/-- number of selected candidates -/
def trues (l : List Bool) : Nat := (l.filter id).length

private theorem hits_closed (n : Nat) (hn : 0 < n) (k : Nat) (hk : k < n) (len : Nat) :
    trues ((List.range len).map (fun i => i % n == k)) = len / n + (if k < len % n then 1 else 0) := by
  induction len with
  | zero => simp [trues]
  | succ len ih =>
    have hr : len % n < n := Nat.mod_lt _ hn
    have step : trues ((List.range (len + 1)).map (fun i => i % n == k)) =
        trues ((List.range len).map (fun i => i % n == k)) + (if len % n = k then 1 else 0) := by
      by_cases hk : len % n = k <;> simp [trues, List.range_succ, hk]
    -- a shard has had its turn in the current round if it had it before candidate `len` or has it now
    have turn : (if k < len % n + 1 then 1 else 0) = (if k < len % n then 1 else 0) + (if len % n = k then 1 else 0) := by
      rcases Nat.lt_trichotomy k (len % n) with h | h | h
      · simp [h, Nat.lt_succ_of_lt h, Nat.ne_of_gt h]
      · simp [h]
      · simp [Nat.lt_asymm h, Nat.ne_of_lt h, Nat.not_lt.mpr (Nat.succ_le_of_lt h)]
    have hmod : (len + 1) % n = (len % n + 1) % n := (Nat.mod_add_mod ..).symm
    rw [step, ih, Nat.add_assoc, ← turn]
    -- the round goes on, or it is complete: every shard has had its turn, and a new round begins
    rcases Nat.lt_or_ge (len % n + 1) n with hlt | hge
    · rw [Nat.mod_eq_of_lt hlt] at hmod
      rw [Nat.succ_div_of_mod_ne_zero (hmod ▸ Nat.succ_ne_zero _), hmod]
    · rw [show len % n + 1 = n from Nat.le_antisymm hr hge, Nat.mod_self] at hmod
      rw [Nat.succ_div_of_mod_eq_zero hmod, hmod, if_pos (Nat.lt_of_lt_of_le hk hge), if_neg (Nat.not_lt_zero k)]

/-- Count sharding: for every candidate list, the sizes of any two shards `m, m' ∈ 1..n` differ by
    at most one. -/
theorem count_sizes_differ_by_at_most_one (n : Nat) (hn : 0 < n) (L : List Name) (m m' : Nat)
    (h1 : 1 ≤ m) (h2 : m ≤ n) (h1' : 1 ≤ m') (h2' : m' ≤ n) :
    trues (Partition.run (countP m n) 0 L) ≤ trues (Partition.run (countP m' n) 0 L) + 1 := by
  rw [count_every_nth m n hn L, count_every_nth m' n hn L,
    hits_closed n hn (m - 1) (Nat.sub_one_lt_of_le h1 h2), hits_closed n hn (m' - 1) (Nat.sub_one_lt_of_le h1' h2')]
  split <;> split <;> omega

/-- `filterMatch` changes the partitioner state only when the ignored, name, expression and
    default-filter stages have all accepted the test. -/
theorem partition_last (cfg : FilterCfg) (c : Nat) (t : TestIn) (ig : Bool) :
    (filterMatch cfg c t ig).2 ≠ c →
      ignoredMismatch cfg.runIgnored ig = false ∧ nameStage cfg t = none ∧ exprStage cfg t = none := by
  intro h
  cases hp : passesOther cfg ig t
  · obtain ⟨r, _, hr⟩ := filterMatch_of_not_passesOther cfg c t ig hp
    rw [hr] at h
    exact absurd rfl h
  · exact (passesOther_iff cfg ig t).mp hp

private def verdictOf (b : Bool) : FilterMatch := if b then .matches else .mismatch .partition

/-- In one pass of `process_output` the partitioner sees exactly the tests that pass all other
    filters, in listing (name) order: aligning the pass's output with its input and keeping the
    tests that pass the other stages, their verdicts are the partitioner's run over that
    sub-list — so with `count:m/n` they are every `n`-th such test beginning with the `m`-th
    (`count_every_nth`), however many other tests are interleaved. -/
theorem count_candidates_are_the_passing_tests (cfg : FilterCfg) (p : Partition)
    (hp : cfg.partition = some p) (ig : Bool) (L : List TestIn) (c : Nat) :
    ((L.zip (runPass cfg ig c L)).filter (fun x => passesOther cfg ig x.1)).map (fun x => x.2.2.2) =
      (p.run c ((L.filter (passesOther cfg ig)).map (·.name))).map verdictOf := by
  induction L generalizing c with
  | nil => rfl
  | cons t ts ih =>
    cases hpo : passesOther cfg ig t
    · obtain ⟨r, _, hr⟩ := filterMatch_of_not_passesOther cfg c t ig hpo
      simp only [runPass, List.zip_cons_cons, List.filter_cons, hpo, hr, Bool.false_eq_true, if_false]
      exact ih c
    · have hfm : filterMatch cfg c t ig = (verdictOf (p.step c t.name).1, (p.step c t.name).2) := by
        rw [filterMatch_of_passesOther cfg c t ig hpo, hp]
        rfl
      simp only [runPass, List.zip_cons_cons, List.filter_cons, hpo, if_true, List.map_cons, hfm]
      exact congrArg _ (ih _)

/-- …and a test that fails another stage is never charged to the partition. -/
theorem non_candidates_not_partition (cfg : FilterCfg) (c : Nat) (t : TestIn) (ig : Bool)
    (h : passesOther cfg ig t = false) :
    (filterMatch cfg c t ig).1 ≠ .mismatch .partition ∧ (filterMatch cfg c t ig).1 ≠ .matches := by
  obtain ⟨r, hr, hf⟩ := filterMatch_of_not_passesOther cfg c t ig h
  rw [hf]
  exact ⟨fun e => hr (FilterMatch.mismatch.inj e), nofun⟩

theorem xxh64_reference :
    XXH64.xxh64 [] 0 = 0xEF46DB3751D8E999 ∧
    XXH64.xxh64 [97] 0 = 0xD24EC4F1A98C6E5B ∧
    XXH64.xxh64 [97, 98, 99] 0 = 0x44BC2CF5AD770999 ∧
    -- "Nobody inspects the spammish repetition" (39 bytes: exercises the 32-byte stripe loop,
    -- the 4-byte and the 1-byte tails)
    XXH64.xxh64 [78, 111, 98, 111, 100, 121, 32, 105, 110, 115, 112, 101, 99, 116, 115, 32, 116, 104, 101,
      32, 115, 112, 97, 109, 109, 105, 115, 104, 32, 114, 101, 112, 101, 116, 105, 116, 105, 111, 110] 0
      = 0xFBCEA83C8A378BF1 := by
  decide +kernel

/-- `parse_shards` accepts exactly `1 ≤ m ≤ n`. -/
theorem parse_shards_valid (k : PartKind) (m n : Nat) :
    (Partition.valid { kind := k, shard := m, total := n } = true) ↔ (1 ≤ m ∧ m ≤ n) := by
  simp [Partition.valid]

example : Partition.run (countP 2 3) 0 [[1], [2], [3], [4], [5]] = [false, true, false, false, true] := by decide
example : trues (Partition.run (countP 1 2) 0 [[1], [2], [3]]) = 2 ∧ trues (Partition.run (countP 2 2) 0 [[1], [2], [3]]) = 1 := by decide

end NextestModel.C13
