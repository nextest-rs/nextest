/-
  C14 — group slots.  Property theorems only (second theorem module of C14); the group-slot invariant `GInv` and the lemmas
  showing that every scheduler operation keeps it are in Lemmas/GroupSlots.lean.
-/
import NextestModel.Lemmas.GroupSlots
namespace NextestModel.C14
open NextestModel.Sched NextestModel.GroupSlots

/-- **A started member of a test group gets the smallest group slot no alive member of that group holds** — one scheduler
    start, in any state satisfying the invariant (which every reachable state does: `group_slots_distinct_and_below`) -/
theorem group_slot_is_least_free (s : SState) (it : Item) (g : Nat) (h : GInv s) (hw : 1 ≤ it.weight) (hg : it.group = some g)
    (hr : g < s.groupMax.length) (hsp : hasSpace (s.gcur.getD g 0) (s.groupMax.getD g 0) it.weight = true) :
    ∃ sl, (s.start it).2.groupSlot = some sl ∧ sl ∉ gheld s g ∧ (∀ y, y < sl → y ∈ gheld s g) ∧ sl < s.groupMax.getD g 0 :=
  have hinv := h.slots g hr
  ⟨_, by rw [start_groupSlot, hg]; rfl, hinv.reserve.1, hinv.reserve.2.1, Nat.lt_of_le_of_lt hinv.reserve_le (gheld_length_lt h hw hr hsp)⟩

/-- **In every reachable state, for every test group: no two alive members share a group slot, every member has one, and it is
    below the group's max-threads** — for every test list with positive threads-required whose groups are configured groups
    with max-threads ≥ 1, every thread count and every order of completions -/
theorem group_slots_distinct_and_below (maxW : Nat) (gm : List Nat) (items : List Item) (ops : List Op) (s' : SState)
    (hw : ∀ it ∈ items, 1 ≤ it.weight) (hr : ∀ it ∈ items, ∀ g, it.group = some g → g < gm.length)
    (hgm : ∀ g, g < gm.length → 1 ≤ gm.getD g 0)
    (h : NextestModel.C08.runOps (SState.init maxW gm items) ops = some s') :
    (∀ g, g < gm.length → (gheld s' g).Nodup) ∧
    (∀ r ∈ s'.running, ∀ g, r.item.group = some g → ∃ sl, r.groupSlot = some sl ∧ sl < gm.getD g 0) := by
  have hinv := C08.runOps_preserves GInv.move GInv.remove ops (ginv_init maxW gm items hw hr hgm) h
  have hgm' : s'.groupMax = gm := (C08.runOps_consts ops h).2
  exact ⟨fun g hg => (hinv.slots g (hgm' ▸ hg)).1, fun r hr' g hg => hgm' ▸ (hinv.hasSlot r hr' g hg).2⟩

-- non-vacuity: group 0 (max-threads 2) with three members on 4 threads: slots 0 and 1 are handed out, the third member waits,
-- and gets the slot of whichever member finishes
example : (C08.runOps (SState.init 4 [2] [⟨0, 1, some 0⟩, ⟨1, 1, some 0⟩, ⟨2, 1, some 0⟩]) [.poll, .complete 0]).map
    (fun s => s.running.map (fun r => (r.item.id, r.groupSlot))) = some [(1, some 1), (2, some 0)] := by decide

end NextestModel.C14
