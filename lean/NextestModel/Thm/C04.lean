/-
  C04 — the set of tests run is exactly the documented composition of all filters.
  Property theorems only; every `theorem` here is a proof obligation of the check.
-/
import NextestModel.Lemmas.Filter
import NextestModel.Gen.Tables
namespace NextestModel.C04
open NextestModel

/-! ## The specification, read off the property statement -/

/-- the four pattern lists of a `TestFilterPatterns`: (substring, exact, skip, skip-exact) -/
def Patterns.parts : Patterns → List Name × List Name × List Name × List Name
  | .skipOnly s se => ([], [], s, se)
  | .patterns ps e s se => (ps, e, s, se)

/-- "matches the name patterns (some substring or exact pattern when any is given, and no `--skip`
    pattern, substring or exact)" -/
def Spec.nameOk (p : Patterns) (n : Name) : Bool :=
  let (ps, e, s, se) := Patterns.parts p
  ((ps.isEmpty && e.isEmpty) || anyInfix ps n || e.contains n) && !(anyInfix s n || se.contains n)

/-- "satisfies the ignored-test policy" -/
def Spec.ignoredOk : RunIgnored → Bool → Bool
  | .default, ig => !ig
  | .only, ig => ig
  | .all, _ => true

/-- "matches at least one -E filterset when any is given" -/
def Spec.exprOk (nExprs : Nat) (bits : List Bool) : Bool := nExprs == 0 || bits.contains true

/-- "is in the default filter unless that is disabled" -/
def Spec.defaultOk (boundDefault inDefault : Bool) : Bool := !boundDefault || inDefault

/-- The stages in the documented order, each with the reason reported when it rejects.
    `partOk` = "falls in the requested partition". -/
def Spec.stages (ri : RunIgnored) (p : Patterns) (nExprs : Nat) (boundDefault : Bool)
    (t : TestIn) (ig : Bool) (partOk : Bool) : List (Reason × Bool) :=
  [ (.ignored, Spec.ignoredOk ri ig),
    (.string, Spec.nameOk p t.name),
    (.expression, Spec.exprOk nExprs t.exprBits),
    (.defaultFilter, Spec.defaultOk boundDefault t.inDefault),
    (.partition, partOk) ]

/-- selected iff every stage accepts; otherwise the reason is the first stage that rejects -/
def Spec.decision (stages : List (Reason × Bool)) : FilterMatch :=
  match stages.find? (fun s => !s.2) with
  | none => .matches
  | some (r, _) => .mismatch r

/-- Patterns that `TestFilterPatterns::{new, add_*}` can produce: the `Patterns` variant always
    carries at least one substring or exact pattern. -/
def Patterns.WF : Patterns → Prop
  | .skipOnly _ _ => True
  | .patterns ps e _ _ => ps ≠ [] ∨ e ≠ []

theorem wf_new (subs : List Name) : Patterns.WF (Patterns.new subs) := by
  unfold Patterns.new Patterns.default
  split
  · trivial
  · rename_i h
    exact .inl fun h' => h (by simp [h'])

theorem wf_ops (p : Patterns) (x : Name) (h : Patterns.WF p) :
    Patterns.WF (p.addSubstring x) ∧ Patterns.WF (p.addExact x) ∧
    Patterns.WF (p.addSkip x) ∧ Patterns.WF (p.addSkipExact x) := by
  cases p <;> simp_all [Patterns.WF, Patterns.addSubstring, Patterns.addExact, Patterns.addSkip,
    Patterns.addSkipExact]

/-- `name_match` after `resolve` accepts exactly the names the documented rule accepts. -/
theorem name_match_spec (p : Patterns) (h : Patterns.WF p) (n : Name) :
    (p.resolve.nameMatch n != .mismatch) = Spec.nameOk p n := by
  cases p with
  | skipOnly s se =>
    simp only [Patterns.resolve, Spec.nameOk, Patterns.parts]
    split
    · -- no skip pattern at all: everything matches
      rename_i hs
      simp only [Bool.and_eq_true, List.isEmpty_iff] at hs
      obtain ⟨rfl, rfl⟩ := hs
      rfl
    · simp only [Resolved.nameMatch]
      cases se.contains n <;> cases anyInfix s n <;> rfl
  | patterns ps e s se =>
    have hne : (ps.isEmpty && e.isEmpty) = false :=
      Bool.and_eq_false_iff.mpr (h.imp List.isEmpty_eq_false_iff.mpr List.isEmpty_eq_false_iff.mpr)
    simp only [Patterns.resolve, Spec.nameOk, Patterns.parts, Resolved.nameMatch, hne]
    cases se.contains n <;> cases anyInfix s n <;> cases e.contains n <;> cases anyInfix ps n <;> rfl

private theorem decision_cons (r : Reason) (b : Bool) (st : List (Reason × Bool)) :
    Spec.decision ((r, b) :: st) = if b then Spec.decision st else .mismatch r := by
  cases b <;> rfl

private theorem decision_matches_iff (st : List (Reason × Bool)) :
    Spec.decision st = .matches ↔ ∀ s ∈ st, s.2 = true := by
  induction st with
  | nil => simp [Spec.decision]
  | cons s st ih =>
    obtain ⟨r, b⟩ := s
    cases b <;> simp [decision_cons, ih]

private theorem nameStage_eq (cfg : FilterCfg) (t : TestIn) :
    nameStage cfg t = if cfg.patterns.nameMatch t.name != .mismatch then none else some .string := by
  unfold nameStage
  cases cfg.patterns.nameMatch t.name <;> rfl

private theorem exprStage_eq_spec (cfg : FilterCfg) (t : TestIn) :
    exprStage cfg t =
      if !Spec.exprOk cfg.nExprs t.exprBits then some .expression
      else if !Spec.defaultOk cfg.boundDefault t.inDefault then some .defaultFilter else none := by
  have : t.exprBits.any id = t.exprBits.contains true := by
    rw [List.contains_eq_any_beq]
    exact congrArg _ (funext fun b => by cases b <;> rfl)
  rw [exprStage_eq, Spec.exprOk, Spec.defaultOk, this]

/-- `filter_match` is the documented composition: a test is selected iff it satisfies the ignored
    policy, the name patterns, some `-E` set (when any), the default filter (unless disabled) and
    the partition; a skipped test's reason is the first stage that rejects it.  Holds for every
    configuration, every name, every truth assignment of the filtersets, every partitioner state. -/
theorem filter_match_spec (ri : RunIgnored) (p : Patterns) (hp : Patterns.WF p) (nExprs : Nat)
    (boundDefault : Bool) (part : Option Partition) (c : Nat) (t : TestIn) (ig : Bool) :
    let cfg : FilterCfg := { runIgnored := ri, patterns := p.resolve, nExprs := nExprs,
                             boundDefault := boundDefault, partition := part }
    let partOk := match part with | none => true | some q => (q.step c t.name).1
    (filterMatch cfg c t ig).1 = Spec.decision (Spec.stages ri p nExprs boundDefault t ig partOk) := by
  intro cfg partOk
  have hi : ignoredMismatch ri ig = !Spec.ignoredOk ri ig := by cases ri <;> cases ig <;> rfl
  unfold filterMatch
  simp only [Spec.stages, decision_cons, nameStage_eq, exprStage_eq_spec, cfg, name_match_spec p hp, hi]
  -- stage by stage: the first that rejects decides on both sides
  cases Spec.ignoredOk ri ig
  · rfl
  cases Spec.nameOk p t.name
  · rfl
  cases Spec.exprOk nExprs t.exprBits
  · rfl
  cases Spec.defaultOk boundDefault t.inDefault
  · rfl
  unfold partitionStage partOk
  cases part with
  | none => rfl
  | some q => cases h : (q.step c t.name).1 <;> simp [h, Spec.decision]

/-- Outright: selected iff all five documented conditions hold. -/
theorem selected_iff (ri : RunIgnored) (p : Patterns) (hp : Patterns.WF p) (nExprs : Nat)
    (boundDefault : Bool) (part : Option Partition) (c : Nat) (t : TestIn) (ig : Bool) :
    let cfg : FilterCfg := { runIgnored := ri, patterns := p.resolve, nExprs := nExprs,
                             boundDefault := boundDefault, partition := part }
    let partOk := match part with | none => true | some q => (q.step c t.name).1
    (filterMatch cfg c t ig).1 = .matches ↔
      (Spec.ignoredOk ri ig = true ∧ Spec.nameOk p t.name = true ∧ Spec.exprOk nExprs t.exprBits = true ∧
       Spec.defaultOk boundDefault t.inDefault = true ∧ partOk = true) := by
  intro cfg partOk
  rw [filter_match_spec ri p hp, decision_matches_iff]
  simp [Spec.stages, partOk]

/-- a three-valued binary-level answer is consistent with a test-level truth value -/
def Consistent (trit : Option Bool) (bit : Bool) : Prop := trit = none ∨ trit = some bit

/-- the shape in which `C05.kleene_sound` concludes it: a definite binary-level answer is the test-level value -/
private theorem consistent_iff {trit : Option Bool} {bit : Bool} : Consistent trit bit ↔ ∀ b, trit = some b → bit = b := by
  cases trit <;> simp [Consistent, eq_comm]

private theorem Consistent.of_true {trit : Option Bool} {bit : Bool} (h : Consistent trit bit) (hb : bit = true) :
    (trit != some false) = true :=
  bne_iff_ne.mpr fun ht => nomatch (consistent_iff.mp h false ht).symm.trans hb

/-- Deciding for a whole binary that it need not be listed never changes the selected set: if
    `filter_binary_match` says `Mismatch`, then — for every test of that binary whose test-level
    truth values are consistent with the binary-level (Kleene) answers, every name, ignored flag,
    pattern set, partition and partitioner state — `filter_match` does not select the test.
    (`Thm/C05.kleene_sound` proves the consistency hypothesis for every filterset, in the shape of `consistent_iff`.) -/
theorem binary_shortcut_sound (trits : List (Option Bool)) (defaultTrit : Option Bool) (boundDefault : Bool)
    (cfg : FilterCfg) (hb : cfg.boundDefault = boundDefault) (hn : cfg.nExprs = trits.length)
    (t : TestIn) (hlen : t.exprBits.length = trits.length)
    (hcons : ∀ j (h1 : j < trits.length) (h2 : j < t.exprBits.length), Consistent trits[j] t.exprBits[j])
    (hd : Consistent defaultTrit t.inDefault) (c : Nat) (ig : Bool) (r : BinReason) :
    filterBinaryMatch trits boundDefault defaultTrit = .mismatch r →
      (filterMatch cfg c t ig).1 ≠ .matches := by
  intro hm hsel
  have hm := congrArg BinMatch.isMatch hm
  have hs := congrArg Option.isNone (exprStage_of_matches cfg c t ig hsel)
  rw [isMatch_filterBinaryMatch] at hm
  rw [exprStage_isNone, hb, hn] at hs
  -- each conjunct of the test-level formula implies the binary-level one
  simp only [Option.isNone_none, Bool.and_eq_true, Bool.or_eq_true] at hs
  obtain ⟨he, hdf⟩ := hs
  have h1 : (trits.isEmpty || trits.any (· != some false)) = true := by
    rcases he with he | he
    · simp [List.length_eq_zero_iff.mp (by simpa using he)]
    · obtain ⟨b, hbm, hbt⟩ := List.any_eq_true.mp he
      obtain ⟨j, hj, rfl⟩ := List.getElem_of_mem hbm
      have hj' : j < trits.length := hlen ▸ hj
      simp only [Bool.or_eq_true, List.any_eq_true]
      exact Or.inr ⟨trits[j], List.getElem_mem hj', (hcons j hj' hj).of_true hbt⟩
  have h2 : (!boundDefault || defaultTrit != some false) = true := by
    rcases hdf with h | h
    · simp [h]
    · simp [hd.of_true h]
  rw [h1, h2] at hm
  cases hm

example : Patterns.WF ((Patterns.new []).addSkipExact [102, 111, 111]) := trivial
/-- the documented `-- --exact --skip foo` form: `foo` itself is rejected, `foobar` is not -/
example : ((Patterns.new []).addSkipExact [102, 111, 111]).resolve.nameMatch [102, 111, 111] = .mismatch ∧
          ((Patterns.new []).addSkipExact [102, 111, 111]).resolve.nameMatch [102, 111, 111, 98] = .matchWith := by
  decide

def reasonName : Reason → String
  | .ignored => "Ignored" | .string => "String" | .expression => "Expression"
  | .partition => "Partition" | .defaultFilter => "DefaultFilter"

theorem mismatch_reasons_match_source :
    Gen.mismatchReasonOrder = [Reason.ignored, .string, .expression, .partition, .defaultFilter].map reasonName :=
  rfl

end NextestModel.C04
