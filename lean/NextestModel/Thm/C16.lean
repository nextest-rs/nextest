/-
  C16 — captured output is complete, ordered and attributed to the right attempt.
  Property theorems only (the accumulator logic; see Model/Capture for what is assumed of pipes).
-/
import NextestModel.Model.Capture
import NextestModel.Gen.Tables
namespace NextestModel.C16
open NextestModel.Capture

/-- what was written = what was captured so far ++ what is still in the pipe -/
def Inv (s : Pipe × Reader × List UInt8) : Prop :=
  s.2.2 = s.2.1.acc ++ s.1.buffered ∧ (s.2.1.done = true → s.1.closed = true ∧ s.1.buffered = [])

private theorem inv_init : Inv init := by simp [Inv, init]

/-- **Whatever the chunking and the interleaving of writes, closes and reads: the captured bytes
    are always a prefix of the bytes written, in order, with nothing lost or duplicated** -/
theorem prefix_invariant (s : Pipe × Reader × List UInt8) (st : Step) (h : Inv s) : Inv (step s st) := by
  obtain ⟨p, r, w⟩ := s
  obtain ⟨h1, h2⟩ := h
  simp only at h1 h2
  cases st with
  | write chunk =>
    simp only [step]
    split
    · exact ⟨h1, h2⟩
    · rename_i hc
      exact ⟨by simp [h1], fun hd => absurd (h2 hd).1 hc⟩
  | close => exact ⟨h1, fun hd => ⟨rfl, (h2 hd).2⟩⟩
  | read n =>
    simp only [step]
    split
    · exact ⟨h1, h2⟩
    · rename_i hd
      split
      · rename_i he
        exact ⟨h1, fun hcl => ⟨hcl, by simpa using he⟩⟩
      · exact ⟨by simp [h1, List.append_assoc, List.take_append_drop], fun hd' => absurd hd' hd⟩
  | snapshot => exact ⟨h1, h2⟩

/-- run a whole schedule -/
def run (s : Pipe × Reader × List UInt8) (sts : List Step) : Pipe × Reader × List UInt8 := sts.foldl step s

theorem prefix_invariant_run (sts : List Step) : Inv (run init sts) :=
  List.foldlRecOn sts step (motive := Inv) inv_init fun s h st _ => prefix_invariant s st h

/-- **If the reader reaches EOF, the captured bytes are exactly all the bytes written** — including
    a write immediately before exit -/
theorem complete_at_eof (sts : List Step) (h : (run init sts).2.1.done = true) :
    (run init sts).2.1.acc = (run init sts).2.2 := by
  obtain ⟨h1, h2⟩ := prefix_invariant_run sts
  rw [h1, (h2 h).2, List.append_nil]

/-- and if the wait for EOF is abandoned (leak timeout), what was captured is still a prefix -/
theorem leak_exit_keeps_prefix (sts : List Step) : (run init sts).2.1.acc <+: (run init sts).2.2 :=
  (prefix_invariant_run sts).1 ▸ List.prefix_append _ _

/-- **the reader is always run to the end**: `complete_at_eof` speaks of a reader that keeps reading until end of file (or the
    leak timeout); in executor.rs, as read on this run, that is `detect_fd_leaks` — called unconditionally after the main loop of a
    test and of a setup script (also after a timeout termination), with nothing before its loop but the timer and no way out of
    it but its `break`s -/
theorem pipes_are_always_drained : ∀ r ∈ Gen.drainAlways, r.2 = true := by decide

/-- drop the information requests from a schedule -/
def withoutSnapshots (sts : List Step) : List Step := sts.filter fun st => match st with | .snapshot => false | _ => true

/-- **answering an information request takes nothing away from what is captured**: a schedule with snapshots taken at any
    moments ends in exactly the state of the same schedule without them — so `complete_at_eof` and the prefix invariant hold
    with information requests interleaved anywhere — and what a snapshot shows is a prefix of what was written -/
theorem snapshots_change_nothing (sts : List Step) (s : Pipe × Reader × List UInt8) :
    run s sts = run s (withoutSnapshots sts) := by
  induction sts generalizing s with
  | nil => rfl
  | cons st sts ih =>
    -- a snapshot step is the identity and is filtered out; any other step is kept
    cases st <;> exact ih _

theorem snapshot_is_a_prefix (sts : List Step) : snapshotOf (run init sts) <+: (run init sts).2.2 :=
  leak_exit_keeps_prefix sts

/-- **… and in imp.rs, as read on this run, a snapshot is a copy**: `ChildOutputMut::snapshot` and
    `ChildAccumulator::snapshot_in_progress` borrow the accumulators immutably, and every stream's snapshot is
    `clone().freeze()` — nothing is split off, taken or cleared (the model's `.snapshot` step leaves the state as it is) -/
theorem snapshot_is_a_copy : Gen.snapshotShape.length = 4 ∧ ∀ r ∈ Gen.snapshotShape, r.2 = true := by decide

/-- non-vacuity: two writes, snapshots in between and after, reads to the end of file — everything written is captured, and the
    snapshot taken after the first read showed its two bytes -/
example : (run init [.write [1, 2], .read 2, .snapshot, .write [3], .close, .snapshot, .read 5, .read 1]).2.1.acc = [1, 2, 3] ∧
    (run init [.write [1, 2], .read 2, .snapshot, .write [3], .close, .snapshot, .read 5, .read 1]).2.1.done = true ∧
    snapshotOf (run init [.write [1, 2], .read 2, .snapshot]) = [1, 2] := by decide

end NextestModel.C16
