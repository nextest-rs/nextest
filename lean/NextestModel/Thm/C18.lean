/-
  C18 — setup scripts run iff needed, serially, first; env reaches matching tests only.
  Property theorems only (which scripts, which order, which variables; "serially, before any test"
  is the executor's sequencing, observed end-to-end; a failing script cancelling everything with
  exit status 105 is C10.script_failure_always_cancels + C01.exit_codes).
-/
import NextestModel.Gen.Tables
import NextestModel.Model.Scripts
namespace NextestModel.C18
open NextestModel.Scripts

/-- **A setup script is executed iff some rule of the active profile that lists it matches, by
    platform and filter, at least one selected test** (and it is a defined script) -/
theorem enabled_iff (defs : List String) (rules : List Rule) (selected : List Nat) (s : String) :
    s ∈ enabled defs rules selected ↔
      (s ∈ defs ∧ ∃ r ∈ rules, s ∈ r.setup ∧ ∃ t ∈ selected, r.on t = true) := by
  simp only [enabled, List.mem_filter, List.any_eq_true, enabledFor, Bool.and_eq_true, List.contains_iff_mem]
  constructor
  · rintro ⟨hd, t, ht, r, hr, hs, ho⟩; exact ⟨hd, r, hr, hs, t, ht, ho⟩
  · rintro ⟨hd, r, hr, hs, t, ht, ho⟩; exact ⟨hd, t, ht, r, hr, hs, ho⟩

/-- **The enabled scripts run in the order in which they are defined**, not in the order a rule
    lists them: the run list is a sublist of the definition list -/
theorem order_is_definition_order (defs : List String) (rules : List Rule) (selected : List Nat) :
    (enabled defs rules selected).Sublist defs := List.filter_sublist

/-- no test selected ⇒ no script runs -/
theorem nothing_selected_nothing_runs (defs : List String) (rules : List Rule) :
    enabled defs rules [] = [] := by
  simp [enabled]

/-- **Names beginning with `NEXTEST` are rejected, as are lines without `=`**: such a file yields no
    variable at all -/
theorem nextest_keys_rejected (pre post : List (List Char)) (line : List Char)
    (h : splitEq line = none ∨ ∃ k v, splitEq line = some (k, v) ∧ reserved k = true) :
    parseEnvFile (pre ++ line :: post) = none := by
  induction pre with
  | nil =>
    simp only [List.nil_append, parseEnvFile]
    rcases h with h | ⟨k, v, h, hk⟩
    · simp [h]
    · simp [h, hk]
  | cons l ls ih =>
    simp only [List.cons_append, parseEnvFile]
    cases splitEq l with
    | none => rfl
    | some kv => simp [ih]

/-- and when a file is accepted, no variable it yields begins with `NEXTEST` -/
theorem accepted_keys_not_reserved : ∀ (lines : List (List Char)) (m : List (List Char × List Char)),
    parseEnvFile lines = some m → ∀ e ∈ m, reserved e.1 = false := by
  intro lines m h
  fun_induction parseEnvFile lines generalizing m with
  | case1 =>  -- the empty file
    cases h
    nofun
  -- a line without `=`, a reserved key, a rejected line further down: the file is not accepted
  | case2 | case3 | case4 => cases h
  | case5 line rest k v _ hk m' hm' ih =>
    -- an accepted line `k=v` in front of an accepted rest
    cases h
    exact List.forall_mem_cons.mpr ⟨by simpa using hk, ih m' hm'⟩

/-- **Variables a script writes are given to exactly those tests matched by a rule listing that
    script**: a test no rule of which lists any executed script gets nothing; a variable written by
    exactly one executed script reaches test `t` iff that script is enabled for `t`. -/
theorem env_scope (rules : List Rule) (s : String) (m : List (List Char × List Char)) (t : Nat) (k v : List Char)
    (hv : mapGet m k = some v) :
    envFor rules [(s, m)] t k = (if enabledFor rules s t then some v else none) := by
  simp only [envFor, List.filterMap_cons, List.filterMap_nil]
  cases enabledFor rules s t <;> simp [hv]

theorem env_not_for_unmatched (rules : List Rule) (executed : List (String × List (List Char × List Char))) (t : Nat) (k : List Char)
    (h : ∀ e ∈ executed, enabledFor rules e.1 t = false) : envFor rules executed t k = none := by
  rw [envFor, List.filterMap_eq_nil_iff.mpr fun (s, m) he => by simp [h (s, m) he]]
  rfl

example : enabled ["a", "b", "c"] [⟨["c", "a"], [true, false]⟩, ⟨["b"], [false, false]⟩] [0, 1] = ["a", "c"] := by decide +kernel

/-- the event list is made of blocks, one per script: `started _, spawn i, finished i` (acknowledged: nothing stands between a
    script's spawn and its own `finished`), or a lone `started _` that no spawn follows (refused) -/
def SerialFrom : List SEv → Prop
  | [] => True
  | .started _ :: .spawn i :: .finished j :: rest => i = j ∧ SerialFrom rest
  | .started _ :: rest => (∀ i, rest.head? ≠ some (.spawn i)) ∧ SerialFrom rest
  | _ => False

/-- the last conjunct is there for the induction: after a refused start the rest of the loop must not open with a spawn -/
private theorem runFrom_spec (env : LoopEnv) (n i : Nat) :
    SerialFrom (runFrom env i n).1 ∧
    scriptSpawns (runFrom env i n).1 = (List.range' i n).filter env.ack ∧
    (runFrom env i n).2 = (List.range' i n).filter (fun k => env.ack k && env.ok k) ∧
    (∀ k, (runFrom env i n).1.head? ≠ some (.spawn k)) := by
  fun_induction runFrom env i n with
  | case1 => exact ⟨trivial, rfl, rfl, nofun⟩
  | case2 i n evs data hr ha ih =>
    -- an acknowledged start: the script's three events, then the rest of the loop
    rw [hr] at ih
    obtain ⟨h1, h2, h3, -⟩ := ih
    rw [List.range'_succ, List.filter_cons, List.filter_cons, if_pos ha, ha, Bool.true_and, ← h2, ← h3]
    exact ⟨⟨rfl, h1⟩, rfl, rfl, nofun⟩
  | case3 i n evs data hr ha ih =>
    -- a refused start: nothing is spawned
    rw [hr] at ih
    obtain ⟨h1, h2, h3, h4⟩ := ih
    rw [List.range'_succ, List.filter_cons, List.filter_cons, if_neg ha, Bool.eq_false_iff.mpr ha, Bool.false_and, ← h2, ← h3]
    refine ⟨?_, rfl, rfl, nofun⟩
    cases evs with
    | nil => exact ⟨h4, h1⟩
    | cons e es =>
      cases e with
      | spawn k => exact absurd rfl (h4 k)
      | _ => exact ⟨h4, h1⟩

/-- **setup scripts run one at a time, in the order in which they are defined**: in the event list of `run_setup_scripts`, every
    spawn is directly preceded by that script's acknowledged start and directly followed by its own `finished` — so script `i+1`
    starts only after script `i` has finished — and the scripts spawned are exactly the acknowledged ones, in index order -/
theorem scripts_serial_in_order (env : LoopEnv) (total : Nat) :
    SerialFrom (runScripts env total).1 ∧ scriptSpawns (runScripts env total).1 = (List.range total).filter env.ack := by
  obtain ⟨h1, h2, _, _⟩ := runFrom_spec env total 0
  exact ⟨h1, by simpa [runScripts, List.range_eq_range'] using h2⟩

/-- a script whose start the dispatcher refuses (a previous script failed — `C10.script_failure_always_cancels` — or the run
    was cancelled otherwise) is not run, and **only scripts that ran successfully with a well-formed env file contribute
    variables** (in script order, which `env_scope` then resolves last-wins) -/
theorem scripts_data (env : LoopEnv) (total : Nat) :
    (runScripts env total).2 = (List.range total).filter (fun k => env.ack k && env.ok k) := by
  obtain ⟨_, _, h3, _⟩ := runFrom_spec env total 0
  simpa [runScripts, List.range_eq_range'] using h3

-- non-vacuity: three scripts, the second fails; the dispatcher then refuses the third
example : runScripts { ack := fun i => decide (i < 2), ok := fun i => i == 0 } 3 =
    ([.started 0, .spawn 0, .finished 0, .started 1, .spawn 1, .finished 1, .started 2], [0]) := by decide +kernel

/-- **`run_setup_scripts` is the loop the model runs** (executor.rs and imp.rs, as read on this run): the scripts are taken in the
    profile's order, each one's future is awaited inside the loop before the next is built, nothing is spawned or joined
    concurrently, a refused start runs nothing, only a script's own env map is handed on — and the test queue is built only after
    the scripts' data has been received (scripts first); `scripts_serial_in_order` and `scripts_data` are about exactly this loop -/
theorem script_loop_is_the_models : ∀ r ∈ Gen.scriptSequencing, r.2 = true := by decide

end NextestModel.C18
