/-
  C02 — every selected test runs once to one final result; unselected tests never run.
  Property theorems only.  Dispatcher side: what the dispatcher accepts (`Model/Dispatcher`);
  scheduler side: whether a selected test's future is ever created (`Model/Sched`).
-/
import NextestModel.Lemmas.Dispatcher
import NextestModel.Thm.C08
import NextestModel.Lemmas.SchedLive
import NextestModel.Lemmas.System
import NextestModel.Thm.C07
namespace NextestModel.C02
open NextestModel.Dispatcher

def registered (s : DState) (i : Nat) : Bool := s.running.any (·.1 == i)

/-- **No test is reported finished without having started**: the dispatcher processes a `Finished`
    (or an `AttemptFailedWillRetry`) for test `i` only while `i` is registered — otherwise it
    panics (`finish_test` / `existing_test`), it never emits the event. -/
theorem finished_requires_started (s : DState) (i : Nat) (r : Res) (slow : Bool)
    (x : DState × Response × Reply × List Emitted) :
    (stepCore s (.finished i r slow) = .ok x → registered s i = true) ∧
    (stepCore s (.attemptFailedWillRetry i r slow) = .ok x → registered s i = true) := by
  have reg {e : Nat × List Res} (he : s.running.find? (·.1 == i) = some e) : registered s i = true :=
    List.isSome_find?.symm.trans (congrArg Option.isSome he)
  constructor
  · intro h
    simp only [stepCore] at h
    split at h
    · cases h
    · exact reg ‹_›
  · intro h
    simp only [stepCore] at h
    split at h
    · cases h
    · exact reg ‹_›

/-- **No test is reported started twice while it runs**: a `Started` request for a registered test
    is never acknowledged (`new_test` panics), and an acknowledged one registers the test and emits
    exactly one `TestStarted`. -/
theorem no_double_start (s : DState) (i : Nat) (st : DState) (resp : Response) (reply : Reply) (em : List Emitted)
    (h : stepCore s (.started i) = .ok (st, resp, reply, em)) :
    (reply = .ack → registered s i = false ∧ s.cancel = none ∧
        em = [.testStarted i st.running.length st.cancel st.stats]) ∧
    (reply ≠ .ack → st = s ∧ em = []) := by
  simp only [stepCore] at h
  split at h
  · cases h
    exact ⟨nofun, fun _ => ⟨rfl, rfl⟩⟩
  · rename_i hc
    split at h
    · cases h
    · rename_i hreg
      cases h
      exact ⟨fun _ => ⟨Bool.eq_false_iff.mpr hreg, Option.not_isSome_iff_eq_none.mp hc, rfl⟩, fun hh => absurd rfl hh⟩

/-- A finished test is unregistered: a second `Finished` for it (without a new start) panics rather
    than being reported — no test is reported finished twice in a row. -/
theorem finished_unregisters (s : DState) (i : Nat) (r : Res) (slow : Bool) (st : DState) (resp : Response)
    (reply : Reply) (em : List Emitted)
    (h : stepCore s (.finished i r slow) = .ok (st, resp, reply, em)) : registered st i = false := by
  simp [registered, (stepCore_ok h).running, runningEffect, List.any_filter]

/-- **The dispatcher never panics on what its units send** (`new_test`: "test instance already present", `existing_test` /
    `finish_test`: "test instance not found"): in every state the dispatcher × units system can reach — any number of tests,
    any max-fail, EVERY interleaving of scheduling, attempts ending with or without a retry, requests, timers, signals,
    reporter errors and deliveries — the next executor event can be handled.  Behind it: per unit, the undelivered messages
    are one of a few patterns fixed by the unit's phase (the channel is FIFO, a unit is sequential), a unit that has not been
    acknowledged is not registered, and one whose `Finished` is still on its way is. -/
theorem dispatcher_panic_free (n : Nat) (mf : MaxFail) (acts : List System.Act) (s : System.Sys)
    (h : System.runActs (System.Sys.init n mf) acts = some s) (hne : s.chan ≠ []) :
    ∃ s', System.step s .deliver = some s' := by
  obtain ⟨h1, h2, _⟩ := System.reach h
  exact System.deliver_enabled s h1 h2 hne

/-- … and every test is reported started at most once and finished at most once, and finished only after it started: per
    unit, a `Started` is in flight only while the unit waits for the reply to it, and a `Finished` only once the unit is done -/
theorem unit_messages_follow_phase (n : Nat) (mf : MaxFail) (acts : List System.Act) (s : System.Sys)
    (h : System.runActs (System.Sys.init n mf) acts = some s) (i : Nat) :
    System.Pat i (s.phase i) (System.proj i s.chan) :=
  (System.reach h).2.1.pat i

/-- **no unit waits for the dispatcher for ever**: in every reachable state of the dispatcher × units system, a unit that has
    announced an attempt (`Started` / `RetryStarted`) and waits for the reply gets it — acknowledged or refused — after at most
    as many deliveries as there are messages in the channel, each of which the dispatcher can make (it never panics, never
    blocks on a unit) -/
theorem waiting_unit_is_answered (n : Nat) (mf : MaxFail) (acts : List System.Act) (s : System.Sys)
    (h : System.runActs (System.Sys.init n mf) acts = some s) (i : Nat)
    (hp : s.phase i = .waitStart ∨ s.phase i = .waitRetry) :
    ∃ k s', k ≤ s.chan.length ∧ System.runActs s (List.replicate k .deliver) = some s' ∧
      (s'.phase i = .running ∨ s'.phase i = .gone) := by
  obtain ⟨h1, h2, _⟩ := System.reach h
  obtain ⟨s', hr, _, hph⟩ := System.deliver_all s h1 h2
  exact ⟨_, s', Nat.le_refl _, hr, (hph i).1 hp⟩

/-- **no deadlock**: in every reachable state every unit that has not ended can move — be dispatched, have its message
    delivered, end its attempt, or see its retry delay run out — and **a final result in flight is reported**: a unit's
    `Finished` is handled after at most as many deliveries as there are messages in the channel -/
theorem no_unit_is_stuck (n : Nat) (mf : MaxFail) (acts : List System.Act) (s : System.Sys)
    (h : System.runActs (System.Sys.init n mf) acts = some s) (i : Nat) :
    ((s.phase i ≠ .done ∧ s.phase i ≠ .gone) →
      ∃ a, (a = .dispatch i ∨ a = .deliver ∨ (∃ r sl, a = .exitFinish i r sl) ∨ ∃ x y, a = .delayExpires i x y) ∧
        (System.step s a).isSome = true) ∧
    (s.phase i = .done → ∃ k s', k ≤ s.chan.length ∧ System.runActs s (List.replicate k .deliver) = some s' ∧
      s'.phase i = .done ∧ System.proj i s'.chan = []) := by
  obtain ⟨h1, h2, _⟩ := System.reach h
  refine ⟨System.progress_possible s h1 h2 i, fun hp => ?_⟩
  -- emptying the channel leaves a unit that is done as it is
  obtain ⟨s', hr, hc, hph⟩ := System.deliver_all s h1 h2
  refine ⟨_, s', Nat.le_refl _, hr, ((hph i).2 ?_).trans hp, by rw [hc]; rfl⟩
  rw [hp]
  decide

open NextestModel.Sched in
/-- **Counterexample (defect F7, future-queue 0.4.0).**  test-threads = 4, one group with
    max-threads = 2 holding `a1` (threads-required 1) and `a2` (threads-required 2), and three
    ungrouped tests.  After the first poll `a1, b1, b2, b3` run and `a2` is parked in its group's
    queue; when `a1` completes the global limit is still full, and afterwards no member of that
    group ever completes again, so the queue is never drained: the run ends with `a2` never created. -/
theorem uncancelled_complete_counterexample :
    ∃ s', C08.runOps (SState.init 4 [2]
        [⟨0, 1, some 0⟩, ⟨1, 2, some 0⟩, ⟨2, 1, none⟩, ⟨3, 1, none⟩, ⟨4, 1, none⟩])
        [.poll, .complete 0, .complete 2, .complete 3, .complete 4] = some s' ∧
      s'.ended = true ∧ s'.queued = 1 := by
  refine ⟨_, rfl, ?_, ?_⟩ <;> decide

section liveness
open NextestModel.Sched NextestModel.SchedLive

/-- `runTrace` (the run with the created futures collected) and `C08.runOps` are the same runs -/
theorem runTrace_state (s : SState) (ops : List Op) : C08.runOps s ops = (runTrace s ops).map (·.1) := by
  induction ops generalizing s with
  | nil => rfl
  | cons o os ih =>
    simp only [C08.runOps, runTrace]
    cases hstep : s.step o with
    | none => rfl
    | some x =>
      obtain ⟨s1, st⟩ := x
      simp only [ih s1]
      cases runTrace s1 os with
      | none => rfl
      | some y => rfl

/-- **Every selected test's future is created exactly once, and the run cannot end before all of them were** — for every
    test list, thread count, group configuration and EVERY order of completions, *provided all members of a test group have
    the same threads-required* (`hu`; without it the statement is false: `uncancelled_complete_counterexample`, defect F7).
    (1) conservation: at any point the futures created so far plus the tests still waiting (in the stream or parked in a group
    queue) are exactly the selected tests, each once — nothing is created twice, nothing is lost;
    (2) when the stream ends (`ended`: nothing pending, nothing running) every selected test's future has been created and
    no test is left parked;
    (3) the scheduler never idles while a test waits: after any operation, if nothing is running the stream has ended. -/
theorem uncancelled_complete_partial (maxW : Nat) (gm : List Nat) (items : List Item) (wg : Nat → Nat)
    (hu : ∀ it ∈ items, ∀ g, it.group = some g → it.weight = wg g)
    (ops : List Op) (s' : SState) (started : List Item)
    (h : runTrace (SState.init maxW gm items) ops = some (s', started)) :
    (started ++ (s'.pending ++ s'.queues.flatten)).Perm items ∧
    (s'.ended = true → started.Perm items ∧ s'.queued = 0) ∧
    (ops ≠ [] → s'.running = [] → s'.ended = true) := by
  obtain ⟨hinv, hperm, hidle⟩ := runTrace_live wg ops _ s' started (inv_init maxW gm wg hu) h
  rw [waiting_init] at hperm
  simp only [SState.ended, Bool.and_eq_true, List.isEmpty_iff]
  refine ⟨hperm, fun hend => ?_, fun hne hrun => ⟨hidle (.inl hne) hrun, hrun⟩⟩
  have hq := queues_empty_of_idle hinv.live hend.2
  refine ⟨?_, by rw [queued_eq, hq]; rfl⟩
  simpa [waiting, hend.1, hq] using hperm

-- non-vacuity: test-threads 4, group 0 (max-threads 2) with three members of threads-required 2 (uniform), two ungrouped
-- tests; two members are parked and later released; the run ends with all five futures created
example : (runTrace (SState.init 4 [2] [⟨0, 2, some 0⟩, ⟨1, 2, some 0⟩, ⟨2, 1, none⟩, ⟨3, 2, some 0⟩, ⟨4, 1, none⟩])
      [.poll, .complete 2, .complete 0, .complete 4, .complete 1, .complete 3]).map (fun x => (x.1.ended, x.1.queued, x.2.map (·.id)))
    = some (true, 0, [0, 2, 4, 1, 3]) := by decide

/-- the F7 witness is outside the hypothesis: its group has members of threads-required 1 and 2 -/
example : ¬ ∃ wg : Nat → Nat, ∀ it ∈ ([⟨0, 1, some 0⟩, ⟨1, 2, some 0⟩] : List Item), ∀ g, it.group = some g → it.weight = wg g := by
  intro ⟨wg, h⟩
  have h1 := h ⟨0, 1, some 0⟩ (by simp) 0 rfl
  have h2 := h ⟨1, 2, some 0⟩ (by simp) 0 rfl
  simp at h1 h2; omega

end liveness

section unit
open NextestModel.Attempts NextestModel.Classify

/-- **one final result**: whatever the test's processes do and whatever the dispatcher acknowledges, a unit sends at most one
    `Finished`; it is the last thing the unit does; and its statuses are exactly the outcomes of the attempts that were spawned,
    1, 2, … in order — no attempt is reported that was not run, none that ran is missing -/
theorem one_final_result (p : Policy) (env : Env) (evs : List XEv) (h : runTestInstance p env = some evs) :
    finisheds evs = [] ∨
    (finisheds evs = [(spawns evs).map env.outcome] ∧ evs.getLast? = some (.finished ((spawns evs).map env.outcome)) ∧ spawns evs ≠ []) :=
  (run_post p env evs h).final.imp And.left fun ⟨h1, h2, k, hk, _⟩ =>
    ⟨h1, h2, fun e => by rw [e] at hk; cases hk⟩

/-- a unit whose start is refused (the run is already being cancelled) spawns nothing and reports nothing -/
theorem refused_start_runs_nothing (p : Policy) (env : Env) (evs : List XEv) (h : runTestInstance p env = some evs)
    (hs : env.ackStart = false) : spawns evs = [] ∧ finisheds evs = [] := by
  unfold runTestInstance at h
  simp [hs] at h; subst h; exact ⟨rfl, rfl⟩

end unit

end NextestModel.C02
