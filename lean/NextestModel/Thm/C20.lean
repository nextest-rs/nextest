/-
  C20 — filterset parsing is total and printing a parsed expression round-trips.
  Property theorems only.  (Model/Syntax's parser is a total Lean function by construction:
  structural recursion on explicit fuel; `OutOfFuel` is an ordinary reported error.)
-/
import NextestModel.Lemmas.ParserRun
import NextestModel.Model.Syntax
import NextestModel.Lemmas.StringRoundTrip
import NextestModel.Gen.Tables
import NextestModel.Lemmas.ExprRoundTrip
import NextestModel.Thm.C05
namespace NextestModel.C20
open NextestModel NextestModel.Syntax

deriving instance DecidableEq for St

/-- parse the printed form of a one-character string, followed by the closing parenthesis -/
def reparseChar (i : Nat) (c : Char) : Option (List Char) × St :=
  parseString { total := 100, regexValid := [], globValid := [] }
    { rest := printStringChar i c ++ [')'], errs := [], needs := [] }

/-- **Every ASCII character round-trips through the string printer and parser**, at the start of a
    value (index 0, where blank `=` `~` `#` must be protected) and elsewhere: the printed form
    re-parses to exactly that character, consumes exactly the printed text and reports no error.
    Each of the 2 × 128 entries is the round trip of a one-character string, an instance of `parseStringLoop_printed` (which holds of
    every character, index and string).  Before the repair of F3 this failed for `'` and `"` (printed as `\'`, `\"`). -/
theorem ascii_char_roundtrip :
    ∀ i : Fin 2, ∀ n : Fin 128,
      reparseChar i.val (Char.ofNat n.val) =
        (some [Char.ofNat n.val], { rest := [')'], errs := [], needs := [] }) := by
  intro i n
  exact parseStringLoop_printed _ [')'] (.close []) _ [] [Char.ofNat n.val] i.val _
    (by rw [printStringFrom, printStringFrom, List.append_nil]) (Nat.lt_succ_self _)

/-- The characters that would change how a value is re-read are never printed raw: for every
    character, the string printer emits either the character itself — and then it is none of
    `,` `)` `\` `/` — or an escape sequence beginning with a backslash. -/
theorem printed_string_has_no_raw_stop (i : Nat) (c : Char) :
    (printStringChar i c = [c] ∧ c ≠ ',' ∧ c ≠ ')' ∧ c ≠ '\\' ∧ c ≠ '/') ∨
    (∃ t, printStringChar i c = '\\' :: t ∧ t ≠ []) := by
  rcases printStringChar_spec i c with ⟨h, hs, h4, _⟩ | ⟨t, h, ht, _⟩
  · simp only [isStringStop, Bool.or_eq_false_iff, beq_eq_false_iff_ne] at hs
    exact Or.inl ⟨h, hs.1.1, hs.1.2, hs.2, h4⟩
  · exact Or.inr ⟨t, h, ht⟩

/-- The regex printer escapes every `/` and nothing else, so the printed text contains no
    unescaped delimiter. -/
theorem printed_regex_slashes_escaped : ∀ s : List Char,
    printRegex s = s.flatMap (fun c => if c = '/' then ['\\', '/'] else [c]) := by
  intro s
  induction s with
  | nil => rfl
  | cons c cs ih =>
    by_cases h : c = '/'
    · subst h; simp [printRegex, ih]
    · simp [printRegex_cons_ne c cs h, ih, h]

/-- **Every string round-trips through the printer and the parser**: for every list of Unicode scalar
    values `s` (of any length, any characters — controls, quotes, delimiters, non-ASCII, leading blanks
    or matcher prefixes), parsing the printed form of `s` followed by a terminator (`)`, `,` or the end
    of the input) yields exactly `s`, consumes exactly the printed text and reports nothing.
    (False before the repair of F3: `'` and `"`.) -/
theorem string_roundtrip (cx : Ctx) (s tail : List Char) (ht : Terminated tail) (errs : List PErr) (needs : List (Bool × List Char)) :
    parseString cx { rest := printString s ++ tail, errs := errs, needs := needs } =
      (some s, { rest := tail, errs := errs, needs := needs }) :=
  parseString_printed cx s tail ht ⟨[], errs, needs⟩

/-- **Every regular expression the parser can produce round-trips**: the printed form (only `/`
    escaped) up to the closing delimiter is read back as the same text.  A text ending in a backslash
    is excluded: the parser never produces one (before the closing `/` it reads `\/` as an escaped
    slash), and no valid regex ends in a lone backslash. -/
theorem regex_roundtrip (s tail : List Char) (h : endsWithBackslash s = false) :
    regexLoop ((printRegex s ++ '/' :: tail).length + 1) [] (printRegex s ++ '/' :: tail) = (s, '/' :: tail) := by
  simpa using regexLoop_printed tail s [] h _ (Nat.lt_succ_self _)

/-- and the excluded shape really does not round-trip (so the hypothesis is needed, and such a text
    must not be in the parser's image — it is not: see above) -/
theorem regex_trailing_backslash_counterexample :
    regexLoop 10 [] (printRegex ['a', '\\'] ++ ['/']) ≠ (['a', '\\'], ['/']) := by decide

/-- what a successful parse produces, for a predicate whose default matcher is `dm` -/
def MatcherOk (cx : Ctx) (dm : DefaultMatcher) : Matcher → Prop
  | .equal v imp => v ≠ [] ∧ (imp = true → dm = .equal)
  | .contains v imp => v ≠ [] ∧ (imp = true → dm = .contains)
  | .glob v imp => v ≠ [] ∧ (imp = true → dm = .glob) ∧ lookup cx.globValid v = some true
  | .regex v => endsWithBackslash v = false ∧ lookup cx.regexValid v = some true

/-- **Every matcher round-trips, and printing never changes which alternative of `set_matcher` reads
    it back**: explicit `=`, `~`, `#`, `/…/` and the implicit form of the predicate's default matcher,
    with any value. -/
theorem matcher_roundtrip (cx : Ctx) (dm : DefaultMatcher) (m : Matcher) (tail : List Char) (errs : List PErr)
    (needs : List (Bool × List Char)) (h : MatcherOk cx dm m) :
    setMatcher cx dm { rest := printMatcher m ++ ')' :: tail, errs := errs, needs := needs } =
      (some m, { rest := ')' :: tail, errs := errs, needs := needs }) := by
  let st : St := { rest := [], errs := errs, needs := needs }
  show setMatcher cx dm (st.withRest _) = (some m, st.withRest _)
  have text : ∀ v, v ≠ [] → parseMatcherText cx (st.withRest (printString v ++ ')' :: tail)) = (some v, st.withRest (')' :: tail)) :=
    fun v hv => parseMatcherText_printed cx v _ hv (.close tail) st
  have dflt := fun v hv => setMatcher_printString cx dm st v (')' :: tail) hv
  cases m with
  | regex v =>
    -- the text up to the closing `/` is read back; `silent_expect` then takes the `/`
    have e : printMatcher (.regex v) ++ ')' :: tail = '/' :: (printRegex v ++ '/' :: ')' :: tail) := by
      simp only [printMatcher, List.append_assoc, List.cons_append, List.nil_append]
    rw [e, setMatcher_regex, parseRegex_printed cx v _ st h.1 h.2]
    rfl
  | equal v imp =>
    obtain ⟨hne, hdm⟩ := h
    cases imp with
    | false => exact (setMatcher_equal cx dm st (printString v ++ ')' :: tail)).trans (by rw [text v hne]; rfl)
    | true =>
      obtain rfl := hdm rfl
      exact (dflt v hne).trans (by simp only [text v hne]; rfl)
  | contains v imp =>
    obtain ⟨hne, hdm⟩ := h
    cases imp with
    | false => exact (setMatcher_contains cx dm st (printString v ++ ')' :: tail)).trans (by rw [text v hne]; rfl)
    | true =>
      obtain rfl := hdm rfl
      exact (dflt v hne).trans (by simp only [text v hne]; rfl)
  | glob v imp =>
    obtain ⟨hne, hdm, hv⟩ := h
    have hg := fun imp => parseGlobM_printed cx imp v _ hne (.close tail) st hv
    cases imp with
    | false => exact (setMatcher_glob cx dm st (printString v ++ ')' :: tail)).trans (hg false)
    | true =>
      obtain rfl := hdm rfl
      exact (dflt v hne).trans (hg true)

/-- every set definition in `e` carries a matcher the parser can have produced under `cx`: a non-empty value, the implicit
    form only for the predicate's own default matcher, a regex not ending in a lone backslash, regex / glob texts the
    `regex` / `globset` crates accept (validity is an input of the model) -/
def SetsOk (cx : Ctx) : PExpr → Prop
  | .set s => ExprRT.SetOk (MatcherOk cx) s
  | .not _ e => SetsOk cx e
  | .parens e => SetsOk cx e
  | .union _ a b => SetsOk cx a ∧ SetsOk cx b
  | .inter _ a b => SetsOk cx a ∧ SetsOk cx b
  | .diff a b => SetsOk cx a ∧ SetsOk cx b

mutual
private theorem wf_basic (cx : Ctx) : ∀ (e : PExpr), C05.IsBasic e → SetsOk cx e → ExprRT.wf (MatcherOk cx) 0 e
  | .set _, .set _, hs => hs
  | .not _ e, .not _ h, hs => wf_basic cx e h hs
  | .parens e, .parens h, hs => wf_or cx e h hs
private theorem wf_and (cx : Ctx) : ∀ (e : PExpr), C05.IsAnd e → SetsOk cx e → ExprRT.wf (MatcherOk cx) 1 e
  | e, .basic h, hs => ExprRT.wf_mono _ 0 1 (Nat.zero_le 1) _ (wf_basic cx e h hs)
  | .inter _ a b, .inter _ ha hb, hs => ⟨Nat.le_refl 1, wf_and cx a ha hs.1, wf_basic cx b hb hs.2⟩
  | .diff a b, .diff ha hb, hs => ⟨Nat.le_refl 1, wf_and cx a ha hs.1, wf_basic cx b hb hs.2⟩
private theorem wf_or (cx : Ctx) : ∀ (e : PExpr), C05.IsOr e → SetsOk cx e → ExprRT.wf (MatcherOk cx) 2 e
  | e, .and h, hs => ExprRT.wf_mono _ 1 2 (Nat.le_succ 1) _ (wf_and cx e h hs)
  | .union _ a b, .union _ ha hb, hs => ⟨Nat.le_refl 2, wf_or cx a ha hs.1, wf_and cx b hb hs.2⟩
end

/-- **Printing a parsed expression and parsing the text again yields the same expression** (modulo source spans), with no
    error and nothing left over — for EVERY expression of the shape the parser produces (`C05.IsOr`: proved of every parser
    output by `C05.parse_shape`), of any size and nesting depth, with any operator spellings, any predicates and any matcher
    values (all scalar values, `string_roundtrip`).  The printer inserts no parentheses of its own, so the shape hypothesis is
    exactly what makes the statement true: `a or (b or c)` without its parentheses node would print as `a or b or c`.
    The fuel the model parser gives itself (`fuelFor`) is shown to suffice for every printed expression. -/
theorem print_parse_roundtrip (e : PExpr) (rv gv : List (List Char × Bool)) (re : List (List Char × Nat × Nat))
    (hshape : C05.IsOr e) (hsets : SetsOk (mkCtx (printExpr e) rv gv re) e) :
    ∃ e', parseFilterset (printExpr e) rv gv re = .ok e' ∧ dropSpans e' = dropSpans e := by
  obtain ⟨e', h1, h2⟩ := ExprRT.parseTop_printed _ _ e (matcher_roundtrip _) (wf_or _ e hshape hsets)
  exact ⟨e', parseFilterset_ok.mpr ⟨by rw [h1], by rw [h1]⟩, h2⟩

/-- the validity tables (the answers of the `regex` / `globset` crates, which the model takes as input) cover every regex
    and glob text of `e`: the parse of `e`'s source consulted the tables and did not fall back to "assume valid" -/
def TablesCover (rv gv : List (List Char × Bool)) : PExpr → Prop
  | .set (.unary _ (.glob v _) _) => (lookup gv v).isSome = true
  | .set (.unary _ (.regex v) _) => (lookup rv v).isSome = true
  | .set _ => True
  | .not _ e => TablesCover rv gv e
  | .parens e => TablesCover rv gv e
  | .union _ a b => TablesCover rv gv a ∧ TablesCover rv gv b
  | .inter _ a b => TablesCover rv gv a ∧ TablesCover rv gv b
  | .diff a b => TablesCover rv gv a ∧ TablesCover rv gv b

private theorem lookup_true {o : Option Bool} (hs : o.isSome = true) (hf : o ≠ some false) : o = some true := by
  match o with
  | some true => rfl
  | some false => exact absurd rfl hf
  | none => cases hs

private theorem sets_ok_of_out (rv gv : List (List Char × Bool)) (re : List (List Char × Nat × Nat)) (i1 i2 : List Char) :
    ∀ e : PExpr, SetsOut (mkCtx i1 rv gv re) e → TablesCover rv gv e → SetsOk (mkCtx i2 rv gv re) e := by
  intro e
  induction e with
  | set s =>
    intro ho hc
    cases s with
    | unary p m sp =>
      cases m with
      | glob v imp => exact ⟨ho.1, ho.2.1, lookup_true hc ho.2.2⟩
      | regex v => exact ⟨ho.1, lookup_true hc ho.2⟩
      | _ => exact ho
    | _ => trivial
  | not op e ih => exact ih
  | parens e ih => exact ih
  | union op a b iha ihb => exact fun ho hc => ⟨iha ho.1 hc.1, ihb ho.2 hc.2⟩
  | inter op a b iha ihb => exact fun ho hc => ⟨iha ho.1 hc.1, ihb ho.2 hc.2⟩
  | diff a b iha ihb => exact fun ho hc => ⟨iha ho.1 hc.1, ihb ho.2 hc.2⟩

/-- **Printing a PARSED expression round-trips** — the property as stated, with no side condition on the expression: for every
    input string that `Filterset::parse` accepts, printing the resulting expression and parsing the printed text yields the
    same expression again (modulo source spans), with no error.  The shape and the well-formedness of the matchers that the
    round trip needs are not assumed but derived from the first parse (`C05.parse_shape`, `parseTop_quiet`: an
    error-free parse yields non-empty values, implicit matchers only in their predicate's default form, regexes not ending in a
    backslash, and texts the validity oracle accepted).  `TablesCover` only says that the oracle's answers used for the second
    parse include the texts of the first. -/
theorem parsed_expression_roundtrips (input : List Char) (rv gv : List (List Char × Bool)) (re : List (List Char × Nat × Nat)) (e : PExpr)
    (h : parseFilterset input rv gv re = .ok e) (hc : TablesCover rv gv e) :
    ∃ e', parseFilterset (printExpr e) rv gv re = .ok e' ∧ dropSpans e' = dropSpans e := by
  obtain ⟨he, hq⟩ := parseFilterset_ok.mp h
  obtain ⟨e', he', hout⟩ := parseTop_quiet _ input hq
  cases he.symm.trans he'
  -- `parse_shape` wants the parse as a pair: name it, so that no term containing `parseTop` has to be unified
  generalize hpt : parseTop (mkCtx input rv gv re) input = pt at he
  obtain ⟨_, st⟩ := pt
  cases he
  exact print_parse_roundtrip e rv gv re (C05.parse_shape input rv gv re e st hpt)
    (sets_ok_of_out rv gv re input (printExpr e) e hout hc)

/-- what `Filterset::parse` returns for the printed form of `e`, spans forgotten -/
def reparse (e : PExpr) : Option PExpr :=
  match parseFilterset (printExpr e) [] [] [] with
  | .ok x => some (dropSpans x)
  | .error _ => none

-- non-vacuity: `not test(a b) and (kind(=lib) | all())` printed and re-read (an implicit `contains` value with a blank, an
-- explicit `equal`, a nullary set, both spellings of or/and, parentheses)
example : reparse (.inter .literalAnd (.not .literalNot (.set (.unary .test (.contains "a b".toList true) ⟨0, 0⟩)))
      (.parens (.union .pipe (.set (.unary .kind (.equal "lib".toList false) ⟨0, 0⟩)) (.set .all)))) =
    some (.inter .literalAnd (.not .literalNot (.set (.unary .test (.contains "a b".toList true) ⟨0, 0⟩)))
      (.parens (.union .pipe (.set (.unary .kind (.equal "lib".toList false) ⟨0, 0⟩)) (.set .all)))) := by decide +kernel

-- non-vacuity of `parsed_expression_roundtrips`: a source text with redundant blanks, several operator spellings and an escaped
-- value is accepted, and its expression re-reads as itself
example : (match parseFilterset "  not  test( a\\,b ) & ( kind(=lib)|all() )  -  package(foo)".toList [] [] [] with
    | .ok x => decide (reparse x = some (dropSpans x)) | .error _ => false) = true := by decide +kernel

/-- without the shape hypothesis the statement is false: a right-nested `or` prints without parentheses and is read back
    left-nested -/
theorem roundtrip_needs_shape :
    reparse (.union .pipe (.set .all) (.union .pipe (.set .none) (.set .all))) =
      some (.union .pipe (.union .pipe (.set .all) (.set .none)) (.set .all)) := by decide +kernel

/-- Every single-character escape the real parser accepts (extracted on this run) is accepted by the
    model with the same value, and the model accepts no other single ASCII character after a backslash. -/
theorem escape_table_matches_source :
    (∀ p ∈ Gen.escapeTable, parseEscapeBody [Char.ofNat p.1] = some (Char.ofNat p.2, [])) ∧
    (∀ n : Fin 128, (parseEscapeBody [Char.ofNat n.val]).isSome = (Gen.escapeTable.map (·.1)).contains n.val) := by
  decide +kernel

/-- **parsing terminates on every string with either an expression or a list of errors**: `parseFilterset` is a total function
    (Lean's termination checker accepted the fuelled definition; `fuelFor` suffices for every input, which the correspondence
    checks by never observing the `outOfFuel` error kind) — and **every reported error span lies within the input**:
    `offset + length ≤` the input's length in bytes, for every input string, every regex/glob validity oracle and every table of
    spans blamed by `regex-syntax` (an `InvalidRegex` span is `start + ` that span, or the whole regex text). -/
theorem spans_in_input (input : List Char) (rv gv : List (List Char × Bool)) (re : List (List Char × Nat × Nat)) (errs : List PErr)
    (h : parseFilterset input rv gv re = .error errs) : ∀ e ∈ errs, e.off + e.len ≤ utf8Len input := by
  rw [(parseFilterset_error h).1]
  exact parseTop_inside (mkCtx input rv gv re) input (Nat.le_refl _)

/-- **an expression or at least one error**: on every string, `Filterset::parse` (model: `parseFilterset`) either returns an
    expression, or returns a NON-EMPTY list of errors — it can never come back empty-handed -/
theorem result_or_error (input : List Char) (rv gv : List (List Char × Bool)) (re : List (List Char × Nat × Nat)) (errs : List PErr)
    (h : parseFilterset input rv gv re = .error errs) : errs ≠ [] := by
  obtain ⟨he, hn | hn⟩ := parseFilterset_error h
  · intro h0
    -- (`he ▸`, not `subst`: replacing `errs` by the parse in `h` is slow)
    obtain ⟨_, hs, _⟩ := parseTop_quiet (mkCtx input rv gv re) input (he ▸ h0)
    rw [hn] at hs
    cases hs
  · exact hn

-- non-vacuity: an input that ends right after a backslash (the escape error's span is clamped to what remains: nothing)
example : (match parseFilterset "test(foo\\".toList [] [] [] with | .error es => es | .ok _ => []) =
    [⟨.invalidEscape, 8, 0⟩, ⟨.expectedCloseParen, 9, 0⟩] := by decide +kernel

end NextestModel.C20
