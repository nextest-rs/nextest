/-
  C07 — "the delay before a retry is actually waited", on the unit model (Model/Unit = `handle_delay_between_attempts`).
  Property theorems only.
-/
import NextestModel.Lemmas.Unit
namespace NextestModel.C07Unit
open NextestModel.Unit

/-- **the delay between attempts is waited in full, and no longer**: entering a delay of `d` ms, with time passing in any steps
    and no request arriving, the next attempt is due exactly once the steps add up to `d`; nothing is signalled meanwhile.
    (Time spent stopped does not count: C12 `stopped_time_excluded`; a cancellation ends the delay at once: below.) -/
theorem retry_delay_is_waited (c : Cfg) (d : Nat) (dts : List Nat) :
    ((run c (U.enterDelay d) (dts.map .time)).1.phase = .done ↔ (dts ≠ [] ∧ d ≤ dts.sum)) ∧
    (run c (U.enterDelay d) (dts.map .time)).2 = [] := by
  have hdue : nextDue (U.enterDelay d) = some d := rfl
  rw [run_time_ending c dts _ _ hdue rfl]
  by_cases hcase : dts ≠ [] ∧ d ≤ dts.sum <;> simp [fire, elapse, U.enterDelay, hcase]

/-- a cancellation or a shutdown signal ends the delay at once, whatever is left of it -/
theorem cancellation_ends_the_delay (c : Cfg) (u : U) (hp : u.phase = .delay) (sr : ShutReq) :
    (step c u (.req .otherCancel)).1.phase = .done ∧ (step c u (.req (.shutdown sr))).1.phase = .done := by
  simp [step, onReq, hp]

-- not vacuous: a 500 ms delay; 300 + 100 ms is not enough, 300 + 250 ms is
example : let c : Cfg := { period := 1000, terminateAfter := none, grace := 100, leak := 200 }
    ((run c (U.enterDelay 500) [.time 300, .time 100]).1.phase, (run c (U.enterDelay 500) [.time 300, .time 250]).1.phase) = (.delay, .done) := by
  decide

end NextestModel.C07Unit
