/-
  C14 — slot numbers are unique among concurrent tests, stable across retries, compact.
  Property theorems: the slot allocator (`SlotReservations`, a min-heap of released slots plus a counter) against the set of
  slots currently held — its invariant `SlotsInv` and the lemmas about it are in Lemmas/Slots.lean — and the global slots of the
  scheduler's running futures — `held`, the invariant `SchedInv` and the lemmas that every move keeps it are in
  Lemmas/GlobalSlots.lean.
-/
import NextestModel.Gen.Tables
import NextestModel.Lemmas.GlobalSlots
import NextestModel.Model.Priority
namespace NextestModel.C14
open NextestModel.Sched

/-- **A newly dispatched test gets the smallest slot that no alive test holds, and it is distinct
    from all of theirs**; the allocator's invariant is preserved. -/
theorem reserve_is_least_free (held : List Nat) (s : Slots) (h : SlotsInv held s) :
    let r := s.reserve
    r.1 ∉ held ∧ (∀ y, y < r.1 → y ∈ held) ∧ SlotsInv (r.1 :: held) r.2 :=
  ⟨h.reserve.1, h.reserve.2.1, h.reserve.2.2.perm (List.perm_append_singleton _ _).symm⟩

/-- releasing a held slot (a test finished — after all its attempts) keeps the invariant -/
theorem release_keeps_invariant (held : List Nat) (s : Slots) (slot : Nat) (h : SlotsInv held s)
    (hs : slot ∈ held) : SlotsInv (held.erase slot) (s.release slot) :=
  h.release (List.perm_cons_erase hs)

/-- no two alive tests ever share a slot: immediate from the invariant -/
theorem held_slots_distinct (held : List Nat) (s : Slots) (h : SlotsInv held s) : held.Nodup := h.1

/-- **starting a test**: it gets the least slot no alive test holds, distinct from all of theirs and below the thread count -/
theorem start_inv (s : SState) (it : Item) (h : SchedInv s) (hw : 1 ≤ it.weight)
    (hs : hasSpace s.cur s.maxW it.weight = true) :
    SchedInv (s.start it).1 ∧ (s.start it).2.globalSlot ∉ held s ∧ (∀ y, y < (s.start it).2.globalSlot → y ∈ held s) := by
  rw [start_globalSlot]
  exact ⟨h.start it hw hs, h.slots.reserve.1, h.slots.reserve.2.1⟩

/-- **Every operation keeps the slots of concurrently alive tests distinct, least-free and below the thread count.** -/
theorem sched_inv_step (s : SState) (op : Op) (s' : SState) (started : List Running)
    (h : SchedInv s) (hstep : s.step op = some (s', started)) : SchedInv s' :=
  step_preserves SchedInv.move SchedInv.remove h hstep

/-- …hence, for every item list with positive threads-required, at least one test thread, and every order of completions:
    **no two concurrently alive tests share a global slot, and every slot is below the test-thread count**
    (`start_inv` adds: each newly started test gets the smallest slot not held by an alive test). -/
theorem global_slots_distinct_and_below (maxW : Nat) (gm : List Nat) (items : List Item) (ops : List Op) (s' : SState)
    (hm : 1 ≤ maxW) (hw : ∀ it ∈ items, 1 ≤ it.weight)
    (h : NextestModel.C08.runOps (SState.init maxW gm items) ops = some s') :
    (s'.running.map (·.globalSlot)).Nodup ∧ ∀ r ∈ s'.running, r.globalSlot < maxW := by
  have hi := C08.runOps_preserves SchedInv.move SchedInv.remove ops (schedInv_init maxW gm items hm hw) h
  have hmw : s'.maxW = maxW := (C08.runOps_consts ops h).1
  exact ⟨hi.slots.1, fun r hr => hmw ▸ hi.below r hr⟩

example : SlotsInv [0, 2] { next := 3, free := [1] } := (slotsInv_iff _ _).mpr (by decide)

open NextestModel.Priority in
/-- **A configured thread count is never below 1**: whatever value is configured for test-threads or for a group's max-threads
    — positive, or negative (counting back from the number of CPUs) by any amount — the computed limit is at least 1, so "below
    the test-thread count, respectively the group's max-threads" is a real bound (a limit of 0 would mean "unbounded" to the
    scheduler); 0 itself is rejected -/
theorem thread_count_positive (ncpu : Nat) (v : Int) (n : Nat) (h : threadCount ncpu v = some n) : 1 ≤ n ∧ v ≠ 0 := by
  unfold threadCount at h
  split at h
  · cases h
  · rename_i hv
    refine ⟨?_, hv⟩
    split at h
    · rename_i hpos
      cases h
      exact Int.lt_toNat.mpr hpos
    · cases h
      exact Int.lt_toNat.mpr (Int.lt_of_lt_of_le Int.zero_lt_one (Int.le_max_right ..))

/-- **the slot numbers an attempt sees are its unit's** (executor.rs `run_test_inner`, as read on this run): `NEXTEST_TEST_GLOBAL_SLOT`
    is `test.cx.global_slot()`, `NEXTEST_TEST_GROUP_SLOT` is `test.cx.group_slot()` or `none`, `NEXTEST_TEST_GROUP` the group or
    `@global` — read from the future-queue context of the unit, which is the same for every attempt of the unit (stable across
    retries), never recomputed -/
theorem slots_come_from_the_units_context : ∀ r ∈ Gen.spawnSetup, r.2 = true := by decide

end NextestModel.C14
