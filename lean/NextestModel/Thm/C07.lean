/-
  C07 — failed tests are retried as configured: count, stop on success, backoff.
  Property theorems only (the backoff iterator, and the attempt loop of run_test_instance; `--retries` is C06.cli_retries_wins, refusal of retries once
  the run is cancelled is C10.no_start_after_cancel).
-/
import NextestModel.Model.Classify
import NextestModel.Lemmas.Attempts
import NextestModel.Gen.Tables
namespace NextestModel.C07
open NextestModel.Classify

/-- the iterator yields exactly `count` delays: a policy allowing N retries makes at most N+1 attempts
    and the `expect` in the attempt loop cannot fire -/
theorem count_exact (p : Policy) : (delays p).length = p.count := by
  rw [delays_eq, List.length_map, List.length_range]

/-- fixed backoff: the same delay every time -/
theorem fixed_delay (c d : Nat) (j : Bool) : delays (.fixed c d j) = List.replicate c d := by
  rw [delays_eq, delayAt, List.map_const', List.length_range]
  rfl

/-- exponential backoff without a cap: the base delay doubling each time -/
theorem exp_delay_closed_form (c d : Nat) (j : Bool) :
    delays (.exponential c d j none) = (List.range c).map (fun k => d * 2 ^ k) := by
  simp only [delays_eq, delayAt, Nat.one_mul]
  rfl

/-- exponential backoff with `max-delay`: the base delay doubling each time, capped at the maximum -/
theorem exp_delay_capped (c d m : Nat) (j : Bool) :
    delays (.exponential c d j (some m)) = (List.range c).map (fun k => min (d * 2 ^ k) m) := by
  simp only [delays_eq, delayAt, Nat.one_mul]
  rfl

example : delays (.exponential 5 100 false (some 350)) = [100, 200, 350, 350, 350] := by decide
example : delays (.exponential 3 100 false none) = [100, 200, 400] := by decide

section loop
open NextestModel.Attempts NextestModel.Dispatcher

/-- the attempt loop never trips its `expect("backoff delay must be non-empty")`: for every policy, every behaviour of the
    test's processes and every pattern of acknowledgements -/
theorem attempt_loop_never_panics (p : Policy) (env : Env) : ∃ evs, runTestInstance p env = some evs := by
  unfold runTestInstance
  split
  · exact ⟨_, rfl⟩
  · obtain ⟨evs, h⟩ := loop_some (p.count + 1) env (p.count + 1) 0 [] (delays p) (by rw [count_exact])
    simp [h]

/-- **a test is attempted at most N + 1 times under a policy allowing N retries, each attempt one spawn, numbered 1, 2, … consecutively** -/
theorem attempts_bound (p : Policy) (env : Env) (evs : List XEv) (h : runTestInstance p env = some evs) :
    (spawns evs).length ≤ p.count + 1 ∧ spawns evs = List.range' 1 (spawns evs).length :=
  have P := run_post p env evs h
  ⟨(Nat.zero_add _ ▸ P.bound :), P.consecutive⟩

/-- **never retried after a passing attempt**: every attempt that was followed by another one had failed -/
theorem stop_on_success (p : Policy) (env : Env) (evs : List XEv) (h : runTestInstance p env = some evs) :
    ∀ k ∈ (spawns evs).dropLast, (env.outcome k).isSuccess = false :=
  (run_post p env evs h).failed

/-- **never retried once the run is being cancelled**: a second or later attempt is spawned only after the dispatcher
    acknowledged its `RetryStarted` (which `C10.no_start_after_cancel` shows it refuses after cancellation began) -/
theorem no_retry_unless_acknowledged (p : Policy) (env : Env) (evs : List XEv) (h : runTestInstance p env = some evs) :
    ∀ k ∈ spawns evs, k ≤ 1 ∨ env.ackRetry k = true :=
  (run_post p env evs h).acked

/-- **retried after each failure until the bound**: when no retry is refused, the unit reports a final result whose last attempt
    passed or which used all N + 1 attempts -/
theorem retried_until_pass_or_bound (p : Policy) (env : Env) (evs : List XEv) (h : runTestInstance p env = some evs)
    (hstart : env.ackStart = true) (hack : ∀ k, env.ackRetry k = true) :
    ∃ k, (spawns evs).getLast? = some k ∧ ((env.outcome k).isSuccess = true ∨ k = p.count + 1) ∧
      finisheds evs = [(spawns evs).map env.outcome] := by
  rcases (run_post p env evs h).final with ⟨_, h0 | ⟨k, hk⟩⟩ | ⟨h1, _, k, hk, hk2⟩
  · rw [hstart] at h0
    cases h0
  · rw [hack] at hk
    cases hk
  · exact ⟨k, hk, hk2, h1⟩

/-- the delay announced before each retry is the backoff iterator's next value (`fixed_delay`, `exp_delay_closed_form`,
    `exp_delay_capped` say what those are) -/
theorem announced_delays_are_backoff (p : Policy) (env : Env) (evs : List XEv) (h : runTestInstance p env = some evs) :
    announcedDelays evs <+: delays p :=
  (run_post p env evs h).delays

-- non-vacuity: 2 retries, attempts fail, fail, pass
example : runTestInstance (.fixed 2 5 false) { outcome := fun k => if k < 3 then .fail none false else .pass, ackStart := true, ackRetry := fun _ => true } =
    some [.started, .spawn 1, .willRetry 1 (.fail none false) 5, .retryStarted 2, .spawn 2, .willRetry 2 (.fail none false) 5,
          .retryStarted 3, .spawn 3, .finished [.fail none false, .fail none false, .pass]] := by decide +kernel
-- the run is cancelled while the unit waits out its first delay: the retry is refused, nothing more is spawned or reported
example : runTestInstance (.fixed 2 5 false) { outcome := fun _ => .fail none false, ackStart := true, ackRetry := fun _ => false } =
    some [.started, .spawn 1, .willRetry 1 (.fail none false) 5, .retryStarted 2] := by decide +kernel

end loop

/-- **the attempt loop of `run_test_instance` is the loop of `Model/Attempts`** (executor.rs, as read on this run): the loop's
    text is exactly six segments in this order, with nothing else in it — the attempt number incremented first, from 0; for every
    attempt after the first the `RetryStarted` handshake, whose refusal ends the unit without a result; one `run_test` per pass;
    `break` on success; otherwise, exactly while `attempt < total_attempts`, the backoff iterator's next delay announced
    (`AttemptFailedWillRetry`) and then waited (`handle_delay_between_attempts`); otherwise `break`; one `Finished` after the loop
    with the status the loop ended with — clause by clause the `loop` / `runTestInstance` of the model, about which
    `attempts_bound`, `stop_on_success`, `no_retry_unless_acknowledged`, `retried_until_pass_or_bound` and
    `announced_delays_are_backoff` speak -/
theorem attempt_loop_is_as_modelled : Gen.attemptLoopShape.length = 8 ∧ ∀ r ∈ Gen.attemptLoopShape, r.2 = true := by decide

end NextestModel.C07
