/-
  The backoff iterator in closed form (`delays_eq`), and the attempt loop (`Model/Attempts`): `LoopPost` says what a run of
  the loop has emitted; it is closed under the ways an iteration ends (`LoopPost.last`, `LoopPost.retry`) and under a handshake
  in front (`LoopPost.handshake`), so it holds along the loop's own recursion (`loop_post`) and of a whole unit (`run_post`).
  What the property theorems say about `run_test_instance` are its fields.
-/
import NextestModel.Model.Attempts

namespace NextestModel.Classify

/-- the `i`-th delay of a policy whose iterator starts from factor `f` -/
def delayAt (f : Nat) : Policy → Nat → Nat
  | .fixed _ d _ => fun _ => d
  | .exponential _ d _ none => fun i => d * (f * 2 ^ i)
  | .exponential _ d _ (some m) => fun i => min (d * (f * 2 ^ i)) m

/-- for every starting factor, not only the powers of 2 the iterator reaches: once the cap is exceeded the factor stays
    as it is, and the closed form still holds from there because every later delay is capped too (`frozen`) -/
theorem delaysFrom_eq (p : Policy) (n f : Nat) : delaysFrom p n f = (List.range n).map (delayAt f p) := by
  induction n generalizing f with
  | zero => rfl
  | succ n ih =>
    have shift : ∀ i, f * 2 * 2 ^ i = f * 2 ^ (i + 1) := fun i => by rw [Nat.pow_succ', Nat.mul_assoc]
    rw [List.range_succ_eq_map, List.map_cons, List.map_map]
    match p with
    -- `delayAt` of a fixed policy ignores the index, so the shifted map is the same map, by unfolding
    | .fixed c d j => exact congrArg _ (ih f)
    | .exponential c d j none =>
      simp only [delaysFrom, ih, delayAt, Nat.pow_zero, Nat.mul_one, Function.comp_def, shift]
    | .exponential c d j (some m) =>
      simp only [delaysFrom]
      split
      · rename_i h
        have frozen : ∀ i, min (d * (f * 2 ^ i)) m = m := fun i =>
          Nat.min_eq_right (Nat.le_trans (Nat.le_of_lt h)
            (Nat.mul_le_mul_left _ (Nat.le_mul_of_pos_right _ (Nat.pow_pos (by omega)))))
        simp only [ih, delayAt, frozen, Function.comp_def]
      · rename_i h
        simp only [ih, delayAt, Nat.pow_zero, Nat.mul_one, Function.comp_def, shift,
          Nat.min_eq_left (Nat.le_of_not_lt h)]

theorem delays_eq (p : Policy) : delays p = (List.range p.count).map (delayAt 1 p) := delaysFrom_eq p _ _

end NextestModel.Classify

namespace NextestModel.Attempts
open NextestModel.Dispatcher NextestModel.Classify

/- The cases of `loop.induct`, in the order of the branches of `loop`: 1 no fuel; 2 the retry is refused; 3 the attempt
   succeeds; 4 a retry is due and the backoff iterator is empty; 5 / 6 a retry is due and the rest of the loop returns
   `some` / `none`; 7 the attempt fails and was the last one allowed. -/

/-- the `expect` on the backoff iterator never fails when the iterator holds one delay per remaining retry -/
theorem loop_some (total : Nat) (env : Env) (fuel done : Nat) (acc : List Res) (ds : List Nat)
    (hds : ds.length + done + 1 = total) :
    ∃ evs, loop total env fuel done acc ds = some evs := by
  fun_induction loop total env fuel done acc ds
  case case4 =>
    simp at hds
    omega
  case case6 hr ih =>
    obtain ⟨evs, h⟩ := ih (by simp at hds; omega)
    rw [h] at hr
    cases hr
  all_goals exact ⟨_, rfl⟩

/-- what the loop has emitted when it runs from attempt `done + 1` on with the statuses `acc` of the earlier attempts and
    what is left, `ds`, of the backoff iterator -/
structure LoopPost (total : Nat) (env : Env) (done : Nat) (acc : List Res) (ds : List Nat) (evs : List XEv) : Prop where
  consecutive : spawns evs = List.range' (done + 1) (spawns evs).length
  bound : done + (spawns evs).length ≤ total
  failed : ∀ k ∈ (spawns evs).dropLast, (env.outcome k).isSuccess = false
  acked : ∀ k ∈ spawns evs, k ≤ 1 ∨ env.ackRetry k = true
  delays : announcedDelays evs <+: ds
  final : (finisheds evs = [] ∧ (env.ackStart = false ∨ ∃ k, env.ackRetry k = false)) ∨
    (finisheds evs = [acc ++ (spawns evs).map env.outcome] ∧
      evs.getLast? = some (.finished (acc ++ (spawns evs).map env.outcome)) ∧
      ∃ k, (spawns evs).getLast? = some k ∧ ((env.outcome k).isSuccess = true ∨ k = total))

variable {total : Nat} {env : Env} {done : Nat} {acc : List Res} {ds : List Nat} {evs : List XEv}

theorem acked_of_not_refused (hc : ¬(decide (done + 1 > 1) && !env.ackRetry (done + 1)) = true) :
    done + 1 ≤ 1 ∨ env.ackRetry (done + 1) = true := by
  cases hh : env.ackRetry (done + 1)
  · exact Or.inl (Nat.le_of_not_lt fun hd => hc (by simp [hd, hh]))
  · exact Or.inr rfl

/-- a handshake in front of the events is no spawn, no result and no announcement, and the last event stays the last -/
theorem LoopPost.handshake {e : XEv} (he : e = .started ∨ ∃ k, e = .retryStarted k) (P : LoopPost total env done acc ds evs) :
    LoopPost total env done acc ds (e :: evs) := by
  rcases he with rfl | ⟨k, rfl⟩
  all_goals
    refine ⟨P.consecutive, P.bound, P.failed, P.acked, P.delays, P.final.imp id fun ⟨h1, h2, hk⟩ => ⟨h1, ?_, hk⟩⟩
    rw [List.getLast?_cons, h2]
    rfl

/-- the `pre` of `loop`'s body, as it stands there once `attempt` is `done + 1`: the `RetryStarted` that goes before every attempt
    but the first -/
theorem LoopPost.pre (P : LoopPost total env done acc ds evs) :
    LoopPost total env done acc ds ((if done + 1 > 1 then [XEv.retryStarted (done + 1)] else []) ++ evs) := by
  split
  · exact P.handshake (.inr ⟨_, rfl⟩)
  · exact P

theorem LoopPost.last (hlt : done < total) (hack : done + 1 ≤ 1 ∨ env.ackRetry (done + 1) = true)
    (hend : (env.outcome (done + 1)).isSuccess = true ∨ ¬ done + 1 < total) :
    LoopPost total env done acc ds [.spawn (done + 1), .finished (acc ++ [env.outcome (done + 1)])] :=
  ⟨rfl, hlt, nofun, List.forall_mem_singleton.mpr hack, List.nil_prefix,
    .inr ⟨rfl, rfl, done + 1, rfl, hend.imp_right fun hn => by omega⟩⟩

theorem LoopPost.retry {ds' : List Nat} {rest : List XEv} (d : Nat)
    (hack : done + 1 ≤ 1 ∨ env.ackRetry (done + 1) = true) (hfl : (env.outcome (done + 1)).isSuccess = false)
    (P : LoopPost total env (done + 1) (acc ++ [env.outcome (done + 1)]) ds' rest) :
    LoopPost total env done acc (d :: ds') (.spawn (done + 1) :: .willRetry (done + 1) (env.outcome (done + 1)) d :: rest) := by
  have hsp : spawns (.spawn (done + 1) :: .willRetry (done + 1) (env.outcome (done + 1)) d :: rest) = (done + 1) :: spawns rest :=
    rfl
  have hacc : ∀ l, acc ++ [env.outcome (done + 1)] ++ List.map env.outcome l =
      acc ++ List.map env.outcome ((done + 1) :: l) := by simp
  refine ⟨?_, ?_, ?_, List.forall_mem_cons.mpr ⟨hack, P.acked⟩, List.cons_prefix_cons.mpr ⟨rfl, P.delays⟩, ?_⟩
  · rw [hsp, List.length_cons, List.range'_succ, ← P.consecutive]
  · rw [hsp, List.length_cons]
    have := P.bound
    omega
  · rw [hsp]
    by_cases hr : spawns rest = []
    · rw [hr]
      nofun
    · rw [List.dropLast_cons_of_ne_nil hr]
      exact List.forall_mem_cons.mpr ⟨hfl, P.failed⟩
  · rw [hsp, ← hacc]
    refine P.final.imp id fun ⟨h1, h2, k, hk, hk2⟩ => ⟨h1, ?_, k, ?_, hk2⟩
    · -- `rest` ends in its `Finished`, so whatever stands in front of it does not matter
      rw [List.getLast?_cons_cons, List.getLast?_cons, h2]
      rfl
    · rw [List.getLast?_cons, hk]; rfl

theorem loop_post (total : Nat) (env : Env) (fuel done : Nat) (acc : List Res) (ds : List Nat) (evs : List XEv)
    (hf : fuel + done = total) (hlt : done < total) (h : loop total env fuel done acc ds = some evs) :
    LoopPost total env done acc ds evs := by
  fun_induction loop total env fuel done acc ds generalizing evs
  -- `h` names the events in the cases that return some, and is absurd in cases 4 and 6
  all_goals cases h
  case case1 => omega
  case case2 hc =>
    simp only [Bool.and_eq_true, Bool.not_eq_true', decide_eq_true_eq] at hc
    exact ⟨rfl, Nat.le_of_lt hlt, nofun, nofun, List.nil_prefix, .inl ⟨rfl, .inr ⟨_, hc.2⟩⟩⟩
  case case3 hc _ _ hs => exact (LoopPost.last hlt (acked_of_not_refused hc) (.inl hs)).pre
  case case5 hc _ _ hs hlt' d ds' rest hr ih =>
    rw [List.append_assoc]
    exact (LoopPost.retry d (acked_of_not_refused hc) (by simpa using hs) (ih rest (by omega) hlt' hr)).pre
  case case7 hc _ _ _ hn => exact (LoopPost.last hlt (acked_of_not_refused hc) (.inr hn)).pre

theorem run_post (p : Policy) (env : Env) (evs : List XEv) (h : runTestInstance p env = some evs) :
    LoopPost (p.count + 1) env 0 [] (delays p) evs := by
  unfold runTestInstance at h
  cases ha : env.ackStart
  · simp [ha] at h
    subst h
    exact ⟨rfl, Nat.zero_le _, nofun, nofun, List.nil_prefix, .inl ⟨rfl, .inl ha⟩⟩
  · cases hl : loop (p.count + 1) env (p.count + 1) 0 [] (delays p) with
    | none => simp [ha, hl] at h
    | some rest =>
      simp [ha, hl] at h
      subst h
      exact (loop_post _ env _ 0 [] _ rest rfl (Nat.succ_pos _) hl).handshake (.inl rfl)

end NextestModel.Attempts
