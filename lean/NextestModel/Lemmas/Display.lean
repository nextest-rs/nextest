/-
  Helper lemmas for the display model (Model/Display): what the pieces written for a unit's output add up to, and that the
  description picked by the heuristics is a part of the stream it was taken from.
-/
import NextestModel.Model.Display
namespace NextestModel.Display

/-- Rewrite with it (`rw`, not `simp`: the literal unifies with `String.ofList _`) before evaluating a test vector: evaluating
    `ascii "…"` as it stands makes the kernel decode the literal from UTF-8. -/
theorem ascii_ofList (l : List Char) : ascii (String.ofList l) = l.map fun c => c.toNat.toUInt8 := by
  rw [ascii, String.toList_ofList]

-- read with `dropOneNl`: for an output that ends with a newline, `dropOneNl out ++ [NL]` is `out` itself
theorem dropLast_getLast? {α} (out : List α) (a : α) (h : out.getLast? = some a) : out.dropLast ++ [a] = out := by
  obtain ⟨ys, rfl⟩ := List.getLast?_eq_some_iff.mp h
  simp

theorem linesWTGo_flatten (s acc : Bytes) : (linesWTGo s acc).flatten = acc.reverse ++ s := by
  fun_induction linesWTGo s acc <;> simp_all

theorem linesWT_flatten (s : Bytes) : (linesWT s).flatten = s := by
  simp [linesWT, linesWTGo_flatten]

theorem trimEndCrLf_prefix (l : Bytes) : trimEndCrLf l <+: l :=
  List.reverse_suffix.mp (by simpa [trimEndCrLf] using List.dropWhile_suffix _)

theorem fed_append (a b : List Piece) : fed (a ++ b) = fed a ++ fed b := by
  induction a with
  | nil => rfl
  | cons x xs ih => cases x <;> simp [fed, ih]

theorem highlightLine_fed (line : Bytes) : fed (highlightLine line) = line := by
  simp only [highlightLine, fed, List.append_nil]
  exact List.prefix_iff_eq_append.mp (trimEndCrLf_prefix line)

theorem fed_flatMap_highlightLine (ls : List Bytes) : fed (ls.flatMap highlightLine) = ls.flatten := by
  induction ls with
  | nil => rfl
  | cons l ls ih => simp [List.flatMap_cons, fed_append, highlightLine_fed, ih]

theorem dropOneNl_append (a b : Bytes) (hb : b ≠ []) : dropOneNl (a ++ b) = a ++ dropOneNl b := by
  unfold dropOneNl
  rw [List.getLast?_append, List.getLast?_eq_some_getLast hb, Option.some_or]
  split
  · rw [List.dropLast_append_of_ne_nil hb]
  · rfl

theorem findNl_lt (s : Bytes) (i : Nat) (h : findNl s = some i) : i < s.length := by
  fun_induction findNl s generalizing i with
  | case1 => cases h  -- no text
  | case2 =>  -- the first byte is the newline
    cases h
    simp
  | case3 c r _ ih =>  -- it is not: the index found in the rest, plus one
    obtain ⟨j, hj, rfl⟩ := Option.map_eq_some_iff.mp h
    exact Nat.succ_lt_succ (ih j hj)

theorem highlightEnd_le (s : Bytes) : highlightEnd s ≤ s.length := by
  unfold highlightEnd
  split
  · exact Nat.le_refl _
  · split
    · exact Nat.le_refl _
    · rename_i j hj
      have h2 := findNl_lt _ j hj
      rw [List.length_drop] at h2
      exact Nat.le_of_lt (Nat.add_lt_of_lt_sub' h2)

theorem writeHighlight_fed (output : Bytes) (d : Subslice) (ps : List Piece) (h : writeHighlight output d = some ps) :
    fed ps = output.take (d.start + highlightEnd d.slice) ++ dropOneNl (output.drop (d.start + highlightEnd d.slice)) ++ [NL] := by
  unfold writeHighlight at h
  simp only at h
  split at h
  · simp only [Option.some.injEq] at h
    subst h
    simp only [fed_append, fed, fed_flatMap_highlightLine, linesWT_flatten, List.append_nil, Nat.add_sub_cancel_left]
    rw [List.take_add]
    simp [List.append_assoc]
  · cases h

theorem trimWsRev_suffix : ∀ (f : Nat) (r : Bytes), trimWsRev f r <:+ r
  | 0, r => List.suffix_refl r
  | f + 1, r => by
    rw [trimWsRev]
    split
    · exact List.suffix_refl r
    · exact (trimWsRev_suffix f _).trans (List.drop_suffix _ r)

theorem trimEndWs_prefix (l : Bytes) : trimEndWs l <+: l :=
  List.reverse_suffix.mp (by simpa [trimEndWs] using trimWsRev_suffix l.length l.reverse)

theorem trimLastTerminator_prefix (l : Bytes) : trimLastTerminator l <+: l := by
  unfold trimLastTerminator
  split
  · rename_i c r hr
    obtain rfl := List.reverse_eq_cons_iff.mp hr
    split
    · -- the line ends with `\n`
      split
      · split
        · -- … after `\r`: both go
          rename_i d _ _
          exact ⟨[d, c], by simp⟩
        · exact List.prefix_append _ _
      · -- … and is nothing else
        exact List.nil_prefix
    · exact List.prefix_rfl
  · exact List.prefix_rfl

/-- `d` is a part of `buf`: `buf[d.start .. d.start + d.slice.len()] == d.slice` -/
def InBounds (buf : Bytes) (d : Subslice) : Prop := ∃ pre post, buf = pre ++ d.slice ++ post ∧ d.start = pre.length

theorem InBounds.le {buf : Bytes} {d : Subslice} (h : InBounds buf d) : d.start + d.slice.length ≤ buf.length := by
  obtain ⟨pre, post, h1, h2⟩ := h
  rw [h1, h2, List.length_append, List.length_append]
  exact Nat.le_add_right ..

theorem inBounds_of_trim (buf : Bytes) (start : Nat) (hs : start ≤ buf.length) :
    InBounds buf { start := start, slice := trimEndWs (buf.drop start) } := by
  obtain ⟨t, ht⟩ := trimEndWs_prefix (buf.drop start)
  refine ⟨buf.take start, t, ?_, by simp [Nat.min_eq_left hs]⟩
  rw [List.append_assoc, ht, List.take_append_drop]

theorem lastPanicked_range (f : Nat) (s : Bytes) (pos : Nat) (ls : Bool) (best : Option Nat) (m : Nat)
    (h : lastPanicked f s pos ls best = some m) : best = some m ∨ (pos ≤ m ∧ m < pos + s.length) := by
  fun_induction lastPanicked f s pos ls best with
  | case1 => exact .inl h  -- out of fuel
  | case2 => exact .inl h  -- end of the text
  | case3 f pos ls best c r n hn ih =>
    -- a match at `pos`: it becomes the best so far
    rw [hn] at h
    rcases ih h with h1 | ⟨h1, h2⟩
    · cases h1
      exact .inr ⟨Nat.le_refl _, by simp⟩
    · simp only [List.length_drop] at h2
      exact .inr ⟨by omega, by omega⟩
  | case4 f pos ls best c r hn ih =>
    -- no match at `pos`: on to the next byte
    rw [hn] at h
    rcases ih h with h1 | ⟨h1, h2⟩
    · exact .inl h1
    · simp only [List.length_cons]
      exact .inr ⟨by omega, by omega⟩

theorem firstError_range (s : Bytes) (pos : Nat) (ls : Bool) (m : Nat) (h : firstError s pos ls = some m) :
    pos ≤ m ∧ m < pos + s.length := by
  fun_induction firstError s pos ls with
  | case1 => cases h  -- end of the text
  | case2 =>  -- a match at `pos`
    cases h
    simp
  | case3 _ _ _ _ _ ih =>  -- none: on to the next byte
    have := ih h
    simp only [List.length_cons]
    omega

theorem rfindNl_lt (s : Bytes) (p : Nat) (h : rfindNl s = some p) : p < s.length := by
  unfold rfindNl at h
  split at h
  · cases h
  · rename_i i hi
    have := findNl_lt _ i hi
    simp only [List.length_reverse] at this
    simp only [Option.some.injEq] at h
    omega

theorem heuristicPanicMessage_inBounds (stderr : Bytes) (d : Subslice) (h : heuristicPanicMessage stderr = some d) :
    InBounds stderr d := by
  unfold heuristicPanicMessage at h
  split at h
  · cases h
  · rename_i m hm
    have hm' : m < stderr.length := by
      rcases lastPanicked_range _ _ _ _ _ m hm with h1 | ⟨_, h2⟩
      · cases h1
      · simpa using h2
    simp only [Option.some.injEq] at h
    subst h
    apply inBounds_of_trim
    -- the description starts at the match, `m`, or just after a newline of `stderr[..m]`: at most at `m` either way
    have hpl : (trimEndCrLf (stderr.take m)).length ≤ m :=
      Nat.le_trans (trimEndCrLf_prefix _).length_le (List.length_take_le ..)
    split
    · rename_i p hp
      have := rfindNl_lt _ p hp
      split
      · show p + 1 ≤ stderr.length
        omega
      · exact Nat.le_of_lt hm'
    · exact Nat.le_of_lt hm'

theorem heuristicErrorStr_inBounds (stderr : Bytes) (d : Subslice) (h : heuristicErrorStr stderr = some d) :
    InBounds stderr d := by
  unfold heuristicErrorStr at h
  split at h
  · cases h
  · rename_i m hm
    have := firstError_range _ _ _ m hm
    simp only [Option.some.injEq] at h
    subst h
    exact inBounds_of_trim _ _ (by omega)

theorem findShouldPanic_spec (ls : List Bytes) (off : Nat) (d : Subslice) (h : findShouldPanic ls off = some d) :
    ∃ pre post, ls.flatten = pre ++ d.slice ++ post ∧ d.start = off + pre.length := by
  fun_induction findShouldPanic ls off with
  | case1 => cases h  -- no line left
  | case2 l ls off line _ =>
    -- the note is in the first line `l`: the description is that line without its terminator
    cases h
    obtain ⟨t, ht⟩ := trimLastTerminator_prefix l
    exact ⟨[], t ++ ls.flatten, by rw [List.flatten_cons, List.nil_append, ← List.append_assoc, ht], by simp⟩
  | case3 l ls off line _ ih =>
    -- it is in a later line: `l` goes in front of what lies before it
    obtain ⟨pre, post, h1, h2⟩ := ih h
    exact ⟨l ++ pre, post, by simp only [List.flatten_cons, h1, List.append_assoc], by rw [h2, List.length_append, Nat.add_assoc]⟩

theorem heuristicShouldPanic_inBounds (stdout : Bytes) (d : Subslice) (h : heuristicShouldPanic stdout = some d) :
    InBounds stdout d := by
  unfold heuristicShouldPanic at h
  obtain ⟨pre, post, h1, h2⟩ := findShouldPanic_spec _ 0 d h
  rw [linesWT_flatten] at h1
  exact ⟨pre, post, h1, by simpa using h2⟩

/-- `if w = .shouldPanic then so else se` is the stream that the heuristic `w` searches -/
theorem heuristicExtract_inBounds {so se : Option Bytes} {w : Which} {d : Subslice} (h : heuristicExtract so se = some (w, d)) :
    ∃ buf, (if w = .shouldPanic then so else se) = some buf ∧ InBounds buf d := by
  simp only [heuristicExtract] at h
  split at h
  · -- found in standard error
    rename_i r hr
    cases h
    split at hr
    · rename_i e
      split at hr
      · -- a panic message
        rename_i hp
        cases hr
        exact ⟨e, rfl, heuristicPanicMessage_inBounds e _ hp⟩
      · -- an `Error:` text
        obtain ⟨s, hs, he⟩ := Option.map_eq_some_iff.mp hr
        cases he
        exact ⟨e, rfl, heuristicErrorStr_inBounds e _ hs⟩
    · cases hr
  · -- nothing there: a should-panic note in standard output
    split at h
    · obtain ⟨s, hs, he⟩ := Option.map_eq_some_iff.mp h
      cases he
      exact ⟨_, rfl, heuristicShouldPanic_inBounds _ _ hs⟩
    · cases h

end NextestModel.Display
