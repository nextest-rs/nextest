/-
  The fuelled search `Graph.reachF` (C05 `deps` / `rdeps`; guppy's `depends_on`) decides exactly the reflexive-transitive closure
  of the dependency edges: soundness by induction on the fuel, completeness because whatever is reachable is reachable by a
  walk that visits no package twice, and such a walk has at most as many vertices as there are packages (pigeonhole).
-/
import NextestModel.Model.Expr
namespace NextestModel.ReachLemmas
open NextestModel

inductive Reach (g : Graph) : Nat → Nat → Prop
  | refl (a : Nat) : Reach g a a
  | step {a c b : Nat} : c ∈ g.succ a → Reach g c b → Reach g a b

def Valid (g : Graph) : Prop := ∀ i c, c ∈ g.succ i → c < g.names.length

theorem valid_of_edges {g : Graph} (h : ∀ l ∈ g.edges, ∀ c ∈ l, c < g.names.length) : Valid g := by
  intro i c hc
  rw [Graph.succ, List.getD_eq_getElem?_getD] at hc
  cases he : g.edges[i]? with
  | none => rw [he] at hc; cases hc
  | some l => rw [he] at hc; exact h l (List.mem_of_getElem? he) c hc

theorem reachF_sound (g : Graph) : ∀ (f a b : Nat), g.reachF f a b = true → Reach g a b := by
  intro f
  induction f with
  | zero => intro a b h; simp [Graph.reachF] at h; subst h; exact Reach.refl a
  | succ f ih =>
    intro a b h
    simp only [Graph.reachF, Bool.or_eq_true, beq_iff_eq, List.any_eq_true] at h
    rcases h with rfl | ⟨c, hc, hr⟩
    · exact Reach.refl a
    · exact Reach.step hc (ih c b hr)

/-- a walk along the edges from `a` to `b`; `l` lists the vertices after `a` -/
inductive Walk (g : Graph) : Nat → List Nat → Nat → Prop
  | nil (a : Nat) : Walk g a [] a
  | cons {a c b : Nat} {l : List Nat} : c ∈ g.succ a → Walk g c l b → Walk g a (c :: l) b

variable {g : Graph} {a b : Nat} {l : List Nat}

theorem reachF_of_walk (h : Walk g a l b) : ∀ f, l.length ≤ f → g.reachF f a b = true := by
  induction h with
  | nil a => intro f _; cases f <;> simp [Graph.reachF]
  | cons hc _ ih =>
    intro f hf
    obtain ⟨f, rfl⟩ := Nat.exists_eq_add_of_le' (Nat.lt_of_lt_of_le (Nat.succ_pos _) hf)
    rw [Graph.reachF, Bool.or_eq_true, List.any_eq_true]
    exact Or.inr ⟨_, hc, ih f (Nat.le_of_succ_le_succ hf)⟩

theorem Walk.enter {x : Nat} (h : Walk g a l b) (hx : x ∈ a :: l) : ∃ t, x :: t <:+ a :: l ∧ Walk g x t b := by
  induction h with
  | nil a => cases List.mem_singleton.mp hx; exact ⟨[], List.suffix_refl _, .nil _⟩
  | @cons a c b l hc hw ih =>
    rcases List.mem_cons.mp hx with rfl | hx
    · exact ⟨c :: l, List.suffix_refl _, .cons hc hw⟩
    · obtain ⟨t, ht, hwt⟩ := ih hx
      exact ⟨t, ht.trans (List.suffix_cons _ _), hwt⟩

theorem simple_walk (h : Reach g a b) : ∃ l, Walk g a l b ∧ (a :: l).Nodup := by
  induction h with
  | refl a => exact ⟨[], .nil a, by simp⟩
  | @step a c b hc _ ih =>
    obtain ⟨l, hw, hnd⟩ := ih
    by_cases ha : a ∈ c :: l
    · -- the walk comes back to `a`: enter it there, which cuts the loop
      obtain ⟨t, ht, hwt⟩ := hw.enter ha
      exact ⟨t, hwt, hnd.sublist ht.sublist⟩
    · exact ⟨c :: l, .cons hc hw, List.nodup_cons.mpr ⟨ha, hnd⟩⟩

theorem Walk.valid (hv : Valid g) (h : Walk g a l b) : ∀ x ∈ l, x < g.names.length := by
  induction h with
  | nil a => intro x hx; cases hx
  | cons hc _ ih => exact List.forall_mem_cons.mpr ⟨hv _ _ hc, ih⟩

theorem reachF_complete (hv : Valid g) (h : Reach g a b) : g.reachF g.names.length a b = true := by
  obtain ⟨l, hw, hnd⟩ := simple_walk h
  -- pigeonhole: the vertices after `a` are distinct packages of the graph (`a` itself need not be one)
  have hlen : l.length ≤ g.names.length := by
    simpa using (List.nodup_cons.mp hnd).2.length_le_of_subset fun x hx => List.mem_range.mpr (hw.valid hv x hx)
  exact reachF_of_walk hw _ hlen

theorem dependsOn_iff (hv : Valid g) (a b : Nat) : g.dependsOn a b = true ↔ Reach g a b :=
  ⟨reachF_sound g _ a b, reachF_complete hv⟩

end NextestModel.ReachLemmas
