/-
  Facts about the model parser's functions that do not depend on what is being proved of it, function by function.  At the
  end, `ExprRT.SetOk`: the one predicate on set definitions that both the round trip (`ExprRoundTrip`) and the run lemmas
  (`ParserRun`) speak of.
-/
import NextestModel.Model.Syntax
namespace NextestModel.Syntax

theorem utf8Len_eq_sum (cs : List Char) : utf8Len cs = (cs.map Char.utf8Size).sum := by
  rw [List.sum_eq_foldl_nat, List.foldl_map]; rfl

@[simp] theorem utf8Len_nil : utf8Len [] = 0 := rfl
@[simp] theorem utf8Len_cons (c : Char) (cs : List Char) : utf8Len (c :: cs) = c.utf8Size + utf8Len cs := by
  simp only [utf8Len_eq_sum, List.map_cons, List.sum_cons]
theorem utf8Len_append (a b : List Char) : utf8Len (a ++ b) = utf8Len a + utf8Len b := by
  simp only [utf8Len_eq_sum, List.map_append, List.sum_append_nat]

theorem utf8Len_le_of_cons {l r : List Char} {c : Char} (h : l = c :: r) : utf8Len r ≤ utf8Len l := by
  rw [h, utf8Len_cons]; exact Nat.le_add_left _ _

abbrev NonWs (c : Char) : Prop := c ≠ ' ' ∧ c ≠ '\n' ∧ c ≠ '\r'

theorem skipWs_le (cs : List Char) : utf8Len (skipWs cs) ≤ utf8Len cs := by
  fun_induction skipWs cs with
  | case1 cs ih | case2 cs ih => exact Nat.le_trans ih (utf8Len_le_of_cons rfl)
  | case3 cs ih => exact Nat.le_trans ih (Nat.le_trans (utf8Len_le_of_cons rfl) (utf8Len_le_of_cons rfl))
  | case4 => exact Nat.le_refl _

theorem skipWs_cons_nonws (c : Char) (cs : List Char) (h : NonWs c) : skipWs (c :: cs) = c :: cs := by
  obtain ⟨h1, h2, h3⟩ := h
  rw [skipWs]
  · intro cs' e; exact h1 (List.cons.inj e).1
  · intro cs' e; exact h2 (List.cons.inj e).1
  · intro cs' e; exact h3 (List.cons.inj e).1

theorem skipWs_space (cs : List Char) : skipWs (' ' :: cs) = skipWs cs := by rw [skipWs]

/-- (`headD ' '`: a blank stands for "no first character") -/
theorem skipWs_append (w R : List Char) (h : NonWs (w.headD ' ')) : skipWs (w ++ R) = w ++ R := by
  cases w with
  | nil => exact absurd rfl h.1
  | cons c t => exact skipWs_cons_nonws c _ h

theorem takeTill_append (p : Char → Bool) (cs : List Char) : (takeTill p cs).1 ++ (takeTill p cs).2 = cs := by
  induction cs with
  | nil => rfl
  | cons c cs ih =>
    simp only [takeTill]
    split
    · rfl
    · exact congrArg (c :: ·) ih

theorem takeTill_utf8 (p : Char → Bool) (cs : List Char) :
    utf8Len (takeTill p cs).1 + utf8Len (takeTill p cs).2 = utf8Len cs := by
  rw [← utf8Len_append, takeTill_append]

theorem takeTill_le (p : Char → Bool) (cs : List Char) : utf8Len (takeTill p cs).2 ≤ utf8Len cs := by
  rw [← takeTill_utf8 p cs]; exact Nat.le_add_left _ _

theorem takeTill_len (p : Char → Bool) (cs : List Char) : (takeTill p cs).1.length + (takeTill p cs).2.length = cs.length := by
  rw [← List.length_append, takeTill_append]

theorem lit_eq (name : String) (cs : List Char) :
    lit name cs = if name.toList.isPrefixOf cs then some (cs.drop name.toList.length) else none := by
  simp only [lit, String.length_toList]

theorem lit_some {name : String} {cs r : List Char} (h : lit name cs = some r) : cs = name.toList ++ r := by
  rw [lit_eq] at h
  split at h
  · rename_i hp
    obtain ⟨t, rfl⟩ := List.isPrefixOf_iff_prefix.mp hp
    rw [← Option.some.inj h, List.drop_left]
  · cases h

theorem lit_le {name : String} {cs r : List Char} (h : lit name cs = some r) : utf8Len r ≤ utf8Len cs := by
  rw [lit_some h, utf8Len_append]; exact Nat.le_add_left _ _

end NextestModel.Syntax

namespace NextestModel.ExprRT
open NextestModel.Syntax

theorem lit_append (name : String) (r : List Char) : lit name (name.toList ++ r) = some r := by
  simp [lit_eq]

theorem headD_append (a b : List Char) (h : NonWs (a.headD ' ')) : (a ++ b).headD ' ' = a.headD ' ' := by
  cases a with
  | nil => exact absurd rfl h.1
  | cons _ _ => rfl

@[simp] theorem withRest_withRest (st : St) (a b : List Char) : (st.withRest a).withRest b = st.withRest b := rfl
@[simp] theorem withRest_rest (st : St) (a : List Char) : (st.withRest a).rest = a := rfl
@[simp] theorem report_errs (st : St) (k : ErrKind) (off len : Nat) : (st.report k off len).errs = st.errs ++ [⟨k, off, len⟩] := rfl

end NextestModel.ExprRT

namespace NextestModel.Syntax

theorem expectChar_hit (cx : Ctx) (c : Char) (k : ErrKind) (st : St) (r : List Char) (hc : NonWs c) :
    expectChar cx c k (st.withRest (c :: r)) = st.withRest r := by
  simp [expectChar, St.withRest, skipWs_cons_nonws c r hc]

theorem recoverComma_close (cx : Ctx) (st : St) (r : List Char) :
    recoverComma cx (st.withRest (')' :: r)) = st.withRest (')' :: r) := by
  simp [recoverComma, St.withRest, skipWs_cons_nonws ')' r (by decide)]

theorem takeHex_le (f : Nat) (cs : List Char) (acc n : Nat) : utf8Len (takeHex f cs acc n).2.2 ≤ utf8Len cs := by
  fun_induction takeHex f cs acc n with
  | case1 | case3 | case4 => exact Nat.le_refl _  -- no fuel, not a hex digit, end of input: nothing is taken
  | case2 f c cs acc n v _ ih => rw [utf8Len_cons]; omega  -- a hex digit

theorem parseUnicode_le {cs r : List Char} {c : Char} (h : parseUnicode cs = some (c, r)) : utf8Len r ≤ utf8Len cs := by
  unfold parseUnicode at h
  split at h
  · rename_i cs'
    have hle := takeHex_le 6 cs' 0 0
    simp only at h
    split at h
    · cases h
    · split at h
      · rename_i hr
        obtain ⟨_, _, he⟩ := Option.map_eq_some_iff.mp h
        cases he
        simp only [hr, utf8Len_cons] at hle ⊢
        omega
      · cases h
  · cases h

theorem parseEscapeBody_le {cs r : List Char} {c : Char} (h : parseEscapeBody cs = some (c, r)) : utf8Len r ≤ utf8Len cs := by
  unfold parseEscapeBody at h
  split at h
  · cases h; exact parseUnicode_le ‹_›
  · split at h <;> cases h <;> exact utf8Len_le_of_cons rfl  -- the one-character escapes

def isRegexStop (c : Char) : Bool := c == '\\' || c == '/'

/-- `parse_regex_inner` one character at a time, without fuel and without runs: the text up to the first unescaped `/` (or the
    end of the input), and what is left -/
def unescapeRegex : List Char → List Char × List Char
  | [] => ([], [])
  | '/' :: r => ([], '/' :: r)
  | '\\' :: '/' :: r => ('/' :: (unescapeRegex r).1, (unescapeRegex r).2)
  | c :: r => (c :: (unescapeRegex r).1, (unescapeRegex r).2)

theorem unescapeRegex_cons (c : Char) (r : List Char) (hc : c ≠ '/') (h : ∀ r', c = '\\' → r ≠ '/' :: r') :
    unescapeRegex (c :: r) = (c :: (unescapeRegex r).1, (unescapeRegex r).2) := by
  rw [unescapeRegex]
  · exact hc
  · exact h

theorem unescapeRegex_takeTill (cs : List Char) :
    unescapeRegex cs = ((takeTill isRegexStop cs).1 ++ (unescapeRegex (takeTill isRegexStop cs).2).1,
      (unescapeRegex (takeTill isRegexStop cs).2).2) := by
  induction cs with
  | nil => rfl
  | cons c r ih =>
    rw [takeTill]
    split
    · rfl
    · rename_i h
      simp only [isRegexStop, Bool.or_eq_true, beq_iff_eq, not_or] at h
      rw [unescapeRegex_cons c r h.2 (fun _ e => absurd e h.1), ih]
      rfl

theorem regexLoop_eq (f : Nat) (acc cs : List Char) (hf : cs.length < f) :
    regexLoop f acc cs = (acc ++ (unescapeRegex cs).1, (unescapeRegex cs).2) := by
  fun_induction regexLoop f acc cs with
  | case1 => cases hf  -- no fuel
  | case2 f acc r ih =>  -- `\/`
    rw [ih (by simp only [List.length_cons] at hf; omega), unescapeRegex, List.append_assoc]; rfl
  | case3 f acc r hr ih =>  -- a backslash that no `/` follows
    rw [ih (by simp only [List.length_cons] at hf; omega), unescapeRegex_cons '\\' r (by decide) (fun r' _ => hr r'),
      List.append_assoc]; rfl
  | case4 => simp [unescapeRegex]  -- the closing `/`
  | case5 => simp [unescapeRegex]  -- end of input
  | case6 f acc c r _ hb hs l rest' ht ih =>  -- a run of other characters, taken by `take_till` in one turn
    have hl := takeTill_len isRegexStop (c :: r)
    have hne : 0 < l.length := by
      have := congrArg Prod.fst ht
      simp only [takeTill, show ¬(c = '\\' ∨ c = '/') from fun h => h.elim hb hs, Bool.or_eq_true, beq_iff_eq, if_false] at this
      rw [← this]; exact Nat.succ_pos _
    rw [show takeTill isRegexStop (c :: r) = (l, rest') from ht] at hl
    rw [ih (by simp only [List.length_cons] at hf hl; omega), unescapeRegex_takeTill (c :: r),
      show takeTill isRegexStop (c :: r) = (l, rest') from ht, List.append_assoc]

/-- `≤`, not `=`: `\/` is two bytes of source for one of text -/
theorem unescapeRegex_len (cs : List Char) : utf8Len (unescapeRegex cs).1 + utf8Len (unescapeRegex cs).2 ≤ utf8Len cs := by
  fun_induction unescapeRegex cs with
  | case1 | case2 => exact Nat.le_of_eq (Nat.zero_add _)  -- end of input, the closing `/`
  | case3 r ih => simp only [utf8Len_cons]; omega  -- `\/`
  | case4 c r _ _ ih => simp only [utf8Len_cons]; omega  -- any other character

/-- the text ends in a backslash (such a text is never produced by the parser: before the closing
    delimiter a backslash would have been read as `\/`) -/
def endsWithBackslash : List Char → Bool
  | [] => false
  | [c] => c == '\\'
  | _ :: cs => endsWithBackslash cs

theorem endsWithBackslash_cons (c : Char) (t : List Char) (ht : t ≠ []) : endsWithBackslash (c :: t) = endsWithBackslash t := by
  cases t with
  | nil => exact absurd rfl ht
  | cons _ _ => rfl

theorem unescapeRegex_fst_eq_nil (cs : List Char) (h : (unescapeRegex cs).1 = []) : cs = [] ∨ ∃ r, cs = '/' :: r := by
  fun_cases unescapeRegex cs with
  | case1 => exact Or.inl rfl  -- end of input
  | case2 r => exact Or.inr ⟨r, rfl⟩  -- the closing `/`
  | case3 r => cases h  -- `\/`
  | case4 c r h1 h2 =>  -- any other character
    rw [unescapeRegex_cons c r h1 h2] at h
    cases h

theorem unescapeRegex_backslash (cs : List Char) (h : endsWithBackslash (unescapeRegex cs).1 = true) : (unescapeRegex cs).2 = [] := by
  fun_induction unescapeRegex cs with
  | case1 => rfl  -- end of input
  | case2 r => cases h  -- the closing `/`: the text is empty
  | case3 r ih =>  -- `\/`
    by_cases ht : (unescapeRegex r).1 = []
    · rw [ht] at h
      cases h
    · exact ih (by rwa [endsWithBackslash_cons _ _ ht] at h)
  | case4 c r h1 h2 ih =>  -- any other character: if it is the last of the text and a backslash, nothing follows it
    by_cases ht : (unescapeRegex r).1 = []
    · rw [ht] at h
      have hc : c = '\\' := by simpa [endsWithBackslash] using h
      rcases unescapeRegex_fst_eq_nil r ht with rfl | ⟨r', rfl⟩
      · rfl
      · exact absurd rfl (h2 r' hc)
    · exact ih (by rwa [endsWithBackslash_cons _ _ ht] at h)

theorem lookupSpan_some {tbl : List (List Char × Nat × Nat)} {k : List Char} {a b : Nat} (h : lookupSpan tbl k = some (a, b)) :
    a ≤ b ∧ b ≤ utf8Len k := by
  unfold lookupSpan at h
  split at h
  · split at h
    · rename_i hc; simp only [Option.some.injEq] at h; rw [h] at hc; exact hc
    · cases h
  · cases h

theorem valid_errs (st : St) (cx : Ctx) (b : Bool) (t : List Char) : (st.valid cx b t).2.errs = st.errs := by
  unfold St.valid; split <;> rfl
theorem valid_rest (st : St) (cx : Ctx) (b : Bool) (t : List Char) : (st.valid cx b t).2.rest = st.rest := by
  unfold St.valid; split <;> rfl
theorem valid_of_lookup {st : St} {cx : Ctx} {b v : Bool} {t : List Char}
    (h : lookup (if b then cx.regexValid else cx.globValid) t = some v) : st.valid cx b t = (v, st) := by
  simp only [St.valid, h]

theorem valid_true {st : St} {cx : Ctx} {b : Bool} {t : List Char} (h : (st.valid cx b t).1 = true) :
    lookup (if b then cx.regexValid else cx.globValid) t ≠ some false := by
  intro hl
  rw [valid_of_lookup hl] at h
  cases h

theorem setMatcher_regex (cx : Ctx) (dm : DefaultMatcher) (st : St) (R : List Char) :
    setMatcher cx dm (st.withRest ('/' :: R)) =
      ((parseRegex cx (st.withRest R)).1,
        match skipWs (parseRegex cx (st.withRest R)).2.rest with
        | '/' :: r => (parseRegex cx (st.withRest R)).2.withRest r
        | _ => (parseRegex cx (st.withRest R)).2) := by
  simp only [setMatcher, ExprRT.withRest_rest, ExprRT.withRest_withRest, skipWs_cons_nonws '/' R (by decide)]
  rfl

theorem setMatcher_glob (cx : Ctx) (dm : DefaultMatcher) (st : St) (R : List Char) :
    setMatcher cx dm (st.withRest ('#' :: R)) = parseGlobM cx false (st.withRest R) := by
  simp only [setMatcher, ExprRT.withRest_rest, ExprRT.withRest_withRest, skipWs_cons_nonws '#' R (by decide)]

theorem setMatcher_equal (cx : Ctx) (dm : DefaultMatcher) (st : St) (R : List Char) :
    setMatcher cx dm (st.withRest ('=' :: R)) =
      ((parseMatcherText cx (st.withRest R)).1.map (Matcher.equal · false), (parseMatcherText cx (st.withRest R)).2) := by
  simp only [setMatcher, ExprRT.withRest_rest, ExprRT.withRest_withRest, skipWs_cons_nonws '=' R (by decide)]

theorem setMatcher_contains (cx : Ctx) (dm : DefaultMatcher) (st : St) (R : List Char) :
    setMatcher cx dm (st.withRest ('~' :: R)) =
      ((parseMatcherText cx (st.withRest R)).1.map (Matcher.contains · false), (parseMatcherText cx (st.withRest R)).2) := by
  simp only [setMatcher, ExprRT.withRest_rest, ExprRT.withRest_withRest, skipWs_cons_nonws '~' R (by decide)]

/-- (`hR` is an equation so that a caller whose text is an append that only reduces to `hd :: tl` can give `rfl`) -/
theorem setMatcher_default (cx : Ctx) (dm : DefaultMatcher) (st : St) {R : List Char} {hd : Char} {tl : List Char} (hR : R = hd :: tl)
    (hws : NonWs hd) (h1 : hd ≠ '/') (h2 : hd ≠ '#') (h3 : hd ≠ '=') (h4 : hd ≠ '~') :
    setMatcher cx dm (st.withRest R) =
      match dm with
      | .equal => ((parseMatcherText cx (st.withRest R)).1.map (Matcher.equal · true), (parseMatcherText cx (st.withRest R)).2)
      | .contains => ((parseMatcherText cx (st.withRest R)).1.map (Matcher.contains · true), (parseMatcherText cx (st.withRest R)).2)
      | .glob => parseGlobM cx true (st.withRest R) := by
  subst hR
  simp only [setMatcher, ExprRT.withRest_rest, ExprRT.withRest_withRest, skipWs_cons_nonws hd tl hws]
  split
  · rename_i heq
    exact absurd (List.cons.inj heq).1 h1
  · rename_i heq
    exact absurd (List.cons.inj heq).1 h2
  · rename_i heq
    exact absurd (List.cons.inj heq).1 h3
  · rename_i heq
    exact absurd (List.cons.inj heq).1 h4
  · cases dm <;> rfl

/-- one alternative of winnow's `alt` over `(literal keyword, body)` pairs: the body, on what follows the keyword; the `alt` over
    a list of them is `List.findSome?` -/
def alt {α : Type} (st : St) : String × (St → α) → Option α
  | (kw, body) => (lit kw st.rest).map fun r => body (st.withRest r)

theorem findSome?_alt_cons {α : Type} (st : St) (kw : String) (body : St → α) (more : List (String × (St → α))) :
    ((kw, body) :: more).findSome? (alt st) =
      match lit kw st.rest with
      | some r => some (body (st.withRest r))
      | none => more.findSome? (alt st) := by
  rw [List.findSome?_cons, alt]
  cases lit kw st.rest <;> rfl

theorem tryUnary_eq (cx : Ctx) (st : St) (tbl : List (String × DefaultMatcher × Pred)) :
    tryUnary cx st tbl = (tbl.map fun e => (e.1, unaryBody cx e.2.1 e.2.2)).findSome? (alt st) := by
  induction tbl with
  | nil => rfl
  | cons e more ih =>
    obtain ⟨n, dm, p⟩ := e
    simp only [tryUnary, List.map_cons, findSome?_alt_cons, ih]
    rfl

/-- the eleven alternatives of `parse_set_def`; `start` is the position before the keyword -/
def setDefAlts (cx : Ctx) (start : Nat) : List (String × (St → Option SetDef × St)) :=
  unaryTable.map (fun e => (e.1, unaryBody cx e.2.1 e.2.2)) ++
    [("platform", platformBody cx), ("default", nullaryBody cx start fun s => .default s),
     ("all", nullaryBody cx start fun _ => .all), ("none", nullaryBody cx start fun _ => .none)]

theorem parseSetDef_eq (cx : Ctx) (st : St) :
    parseSetDef cx st =
      (setDefAlts cx (pos cx (st.withRest (skipWs st.rest)))).findSome? (alt (st.withRest (skipWs st.rest))) := by
  rw [parseSetDef, setDefAlts, List.findSome?_append, ← tryUnary_eq]
  simp only [findSome?_alt_cons, List.findSome?_nil]
  -- with `lit` a variable, `rfl` compares the two chains of matches as they stand; else it evaluates `lit` on each keyword
  generalize lit = l
  cases tryUnary cx (st.withRest (skipWs st.rest)) unaryTable <;> rfl

/-- (in the `not` alternative `rest` is what follows the operator; only its byte bound is stated) -/
theorem parseBasic_some {cx : Ctx} {f : Nat} {st : St} {r : ERes × St} (h : parseBasic cx (f + 1) st = some r) :
    (∃ s st1, parseSetDef cx (st.withRest (skipWs st.rest)) = some (s, st1) ∧ r = (s.map .set, st1)) ∨
    (∃ op rest, utf8Len rest ≤ utf8Len (skipWs st.rest) ∧
      r = ((basicOrMissing cx f ((st.withRest (skipWs st.rest)).withRest rest)).1.map (.not op),
           (basicOrMissing cx f ((st.withRest (skipWs st.rest)).withRest rest)).2)) ∨
    (∃ rest, skipWs st.rest = '(' :: rest ∧
      r = ((parseExpr cx f ((st.withRest (skipWs st.rest)).withRest rest)).1.map .parens,
           expectChar cx ')' .expectedCloseParen (parseExpr cx f ((st.withRest (skipWs st.rest)).withRest rest)).2)) := by
  simp only [parseBasic] at h
  split at h
  · cases h; exact .inl ⟨_, _, ‹_›, rfl⟩
  · split at h
    · rename_i op rest hnot
      cases h
      refine .inr (.inl ⟨op, rest, ?_, rfl⟩)
      split at hnot
      · cases hnot; exact lit_le ‹_›
      · split at hnot
        · cases hnot; exact utf8Len_le_of_cons ‹_›
        · cases hnot
    · split at h
      · cases h; exact .inr (.inr ⟨_, ‹_›, rfl⟩)
      · cases h

theorem parseFilterset_ok {input : List Char} {rv gv : List (List Char × Bool)} {re : List (List Char × Nat × Nat)} {e : PExpr} :
    parseFilterset input rv gv re = .ok e ↔
      (parseTop (mkCtx input rv gv re) input).1 = some e ∧ (parseTop (mkCtx input rv gv re) input).2.errs = [] := by
  unfold parseFilterset
  generalize parseTop (mkCtx input rv gv re) input = r
  obtain ⟨_ | _, _, _ | _, _⟩ := r <;> simp

theorem parseFilterset_error {input : List Char} {rv gv : List (List Char × Bool)} {re : List (List Char × Nat × Nat)} {errs : List PErr}
    (h : parseFilterset input rv gv re = .error errs) :
    errs = (parseTop (mkCtx input rv gv re) input).2.errs ∧ ((parseTop (mkCtx input rv gv re) input).1 = none ∨ errs ≠ []) := by
  unfold parseFilterset at h
  generalize parseTop (mkCtx input rv gv re) input = r at h
  obtain ⟨e, st⟩ := r
  cases e with
  | none => cases h; exact ⟨rfl, .inl rfl⟩
  | some x =>
    cases hs : st.errs with
    | nil => simp only [hs] at h; cases h
    | cons y ys => simp only [hs] at h; cases h; exact ⟨rfl, .inr (List.cons_ne_nil _ _)⟩

end NextestModel.Syntax

namespace NextestModel.ExprRT
open NextestModel.Syntax

/-- the default matcher of each predicate (the `alt` table of `parse_set_def`) -/
def dmOf : Pred → DefaultMatcher
  | .package => .glob | .deps => .glob | .rdeps => .glob | .kind => .equal
  | .binaryId => .glob | .binary => .glob | .test => .contains

theorem mem_unaryTable {n : String} {dm : DefaultMatcher} {p : Pred} : (n, dm, p) ∈ unaryTable ↔ n = predName p ∧ dm = dmOf p := by
  rw [show unaryTable = [Pred.package, .deps, .rdeps, .kind, .binaryId, .binary, .test].map fun q => (predName q, dmOf q, q) from rfl,
    List.mem_map]
  constructor
  · rintro ⟨q, -, ⟨⟩⟩
    exact ⟨rfl, rfl⟩
  · rintro ⟨rfl, rfl⟩
    exact ⟨p, by cases p <;> decide, rfl⟩

def SetOk (MOk : DefaultMatcher → Matcher → Prop) : SetDef → Prop
  | .unary p m _ => MOk (dmOf p) m
  | _ => True

end NextestModel.ExprRT
