/- `Model/Dispatcher`'s `handle_event`, field by field: what a step that does not panic does to `running_tests`, to the open
   receivers, to the statistics, to the cancel state and to the reply (`Handled`); `step` and `run` taken apart (`step_ok`,
   `run_cons_ok`); by how much a finished test or script moves the counters (`Stats.Counted`).  The only case analysis of
   `stepCore` over all events is the one in `stepCore_ok`. -/
import NextestModel.Model.Dispatcher

-- `sev`, `isStart`, `annOf` are the vocabulary of C10's statements, whence the namespace; `Handled` is written in it too,
-- which is why they are defined here and not in `Thm/C10`
namespace NextestModel.C10
open NextestModel.Dispatcher

/-- severity of the current cancel state: 0 = not cancelled -/
def sev : Option CancelReason → Nat
  | none => 0
  | some r => r.rank + 1

def isStart : Emitted → Bool
  | .testStarted .. => true
  | .testRetryStarted .. => true
  | .scriptStarted .. => true
  | _ => false

/-- severities announced by a list of emitted events -/
def annOf (em : List Emitted) : List Nat :=
  em.filterMap fun
    | .runBeginCancel q _ _ => some (q.rank + 1)
    | _ => none

end NextestModel.C10

namespace NextestModel.Dispatcher
open NextestModel.C10 (sev isStart annOf)

/-- past attempts recorded for test `i` -/
def DState.past (s : DState) (i : Nat) : List Res :=
  match s.running.find? (·.1 == i) with
  | some e => e.2
  | none => []

def statsEffect (s : DState) : DEvent → Stats
  | .finished i r slow => s.stats.onTestFinished r slow (s.past i ++ [r]).length
  | .scriptFinished _ r => s.stats.onScriptFinished r
  | .skipped _ => { s.stats with skipped := s.stats.skipped + 1 }
  | _ => s.stats

def runningEffect (s : DState) : DEvent → List (Nat × List Res)
  | .started i => if s.cancel.isSome then s.running else insertSorted i [] s.running
  | .attemptFailedWillRetry i r _ => s.running.map (fun e => if e.1 == i then (e.1, e.2 ++ [r]) else e)
  | .finished i _ _ => s.running.filter (·.1 != i)
  | _ => s.running

def rxOpenEffect (s : DState) : DEvent → List Nat
  | .closeRx i | .finished i _ _ => s.rxOpen.filter (· != i)
  | .started i => if s.cancel.isSome then s.rxOpen else i :: s.rxOpen.filter (· != i)
  | _ => s.rxOpen

def replyEffect (s : DState) : DEvent → Reply
  | .started _ | .retryStarted .. | .scriptStarted .. => if s.cancel.isSome then .drop else .ack
  | _ => .none

/-- the reason with which an event calls `begin_cancel`, if it comes to that -/
def cancelReason : DEvent → Option CancelReason
  | .finished .. => some .testFailure
  | .scriptFinished .. => some .setupScriptFailure
  | .shutdown sg => some (sigReason sg)
  | .reportCancel => some .reportError
  | _ => none

def isShutdown : DEvent → Bool
  | .shutdown _ => true
  | _ => false

def Response.isCancel : Response → Bool
  | .cancelReport | .cancelTestFailure | .cancelSignal _ => true
  | _ => false

/-- `begin_cancel` took effect: the cancel state is raised to the event's own reason `q`, strictly above the old one, with a
    cancelling response and exactly one announcement, the last emitted event -/
structure Raised (s : DState) (e : DEvent) (st : DState) (resp : Response) (em : List Emitted) (q : CancelReason) : Prop where
  reason : cancelReason e = some q
  above : sev s.cancel < sev (some q)
  state : st.cancel = some q
  response : resp.isCancel = true
  last : ∃ sc rn em0, em = em0 ++ [.runBeginCancel q sc rn] ∧ annOf em0 = []

/-- what a `handle_event` that does not panic has done -/
structure Handled (s : DState) (e : DEvent) (st : DState) (resp : Response) (reply : Reply) (em : List Emitted) : Prop where
  running : st.running = runningEffect s e
  rxOpen : st.rxOpen = rxOpenEffect s e
  stats : st.stats = statsEffect s e
  maxFail : st.maxFail = s.maxFail
  signalCount : st.signalCount = s.signalCount + (if isShutdown e then 1 else 0)
  answer : reply = replyEffect s e
  starts : ∀ x ∈ em, isStart x = true → reply = .ack
  cancel : (st.cancel = s.cancel ∧ annOf em = []) ∨ ∃ q, Raised s e st resp em q

theorem mem_annOf {em : List Emitted} {q : CancelReason} {sc rn : Nat} (h : .runBeginCancel q sc rn ∈ em) :
    q.rank + 1 ∈ annOf em :=
  List.mem_filterMap.mpr ⟨_, h, rfl⟩

theorem annOf_append (em em' : List Emitted) : annOf (em ++ em') = annOf em ++ annOf em' :=
  List.filterMap_append

theorem cancelLt_iff_sev (c : Option CancelReason) (q : CancelReason) : cancelLt c q = true ↔ sev c < sev (some q) := by
  cases c <;> simp [cancelLt, sev]

theorem replyEffect_ack {s : DState} {e : DEvent} (h : replyEffect s e = .ack) : s.cancel = none := by
  cases hc : s.cancel with
  | none => rfl
  | some c => cases e <;> simp [replyEffect, hc] at h

theorem starts_append {P : Prop} {em : List Emitted} {x : Emitted} (h : ∀ y ∈ em, isStart y = true → P)
    (hx : isStart x = false) : ∀ y ∈ em ++ [x], isStart y = true → P := by
  rw [List.forall_mem_append, List.forall_mem_singleton, hx]
  exact ⟨h, fun hs => nomatch hs⟩

section
variable {s : DState} {e : DEvent} {st : DState} {resp : Response} {reply : Reply} {em : List Emitted}

theorem Handled.refused (h : Handled s e st resp reply em) (hc : s.cancel.isSome = true) : reply ≠ .ack := by
  intro ha
  rw [replyEffect_ack (h.answer ▸ ha)] at hc
  cases hc

theorem Handled.no_start (h : Handled s e st resp reply em) (hc : s.cancel.isSome = true) : ∀ x ∈ em, isStart x = false := by
  intro x hx
  cases hs : isStart x
  · rfl
  · exact absurd (h.starts x hx hs) (h.refused hc)

theorem Handled.sev_le (h : Handled s e st resp reply em) : sev s.cancel ≤ sev st.cancel := by
  rcases h.cancel with ⟨h1, _⟩ | ⟨q, r⟩
  · rw [h1]
    exact Nat.le_refl _
  · rw [r.state]
    exact Nat.le_of_lt r.above

theorem Handled.stays_cancelled (h : Handled s e st resp reply em) (hc : s.cancel.isSome = true) : st.cancel.isSome = true := by
  rcases h.cancel with ⟨h1, _⟩ | ⟨q, r⟩
  · rw [h1]
    exact hc
  · rw [r.state]
    rfl

theorem Handled.announced (h : Handled s e st resp reply em) :
    annOf em = [] ∨ (sev s.cancel < sev st.cancel ∧ annOf em = [sev st.cancel]) := by
  rcases h.cancel with ⟨_, h0⟩ | ⟨q, r⟩
  · exact Or.inl h0
  · obtain ⟨sc, rn, em0, rfl, h0⟩ := r.last
    rw [r.state, annOf_append, h0]
    exact Or.inr ⟨r.above, rfl⟩

theorem Handled.of_announce (h : Handled s e st resp reply em) {q : CancelReason} {sc rn : Nat}
    (hq : .runBeginCancel q sc rn ∈ em) : sev s.cancel < sev (some q) ∧ st.cancel = some q := by
  have none_in {em0 : List Emitted} (h0 : annOf em0 = []) : .runBeginCancel q sc rn ∉ em0 := fun hm => by
    have := mem_annOf hm
    rw [h0] at this
    cases this
  rcases h.cancel with ⟨_, h0⟩ | ⟨q', r⟩
  · exact absurd hq (none_in h0)
  · obtain ⟨_, _, em0, rfl, h0⟩ := r.last
    rcases List.mem_append.mp hq with hq | hq
    · exact absurd hq (none_in h0)
    · cases List.mem_singleton.mp hq
      exact ⟨r.above, r.state⟩

theorem Handled.quiet (h : Handled s e st resp reply em) (hr : resp.isCancel = false) : st.cancel = s.cancel ∧ annOf em = [] := by
  rcases h.cancel with h | ⟨_, r⟩
  · exact h
  · exact absurd (hr.symm.trans r.response) Bool.false_ne_true

theorem Handled.info (h : Handled s e st .info reply em) (n : Nat) : Handled s e st .info reply (em ++ [.infoStarted n]) := by
  refine { h with starts := starts_append h.starts rfl, cancel := Or.inl ⟨(h.quiet rfl).1, ?_⟩ }
  rw [annOf_append, (h.quiet rfl).2]
  rfl

end

theorem beginCancel_cases (s : DState) (q : CancelReason) (rsp : Response) :
    (rsp = .cancelSignal .twice ∧ beginCancel s q rsp = (s, rsp, [.runBeginKill s.scriptsRunning s.running.length])) ∨
    (cancelLt s.cancel q = true ∧
      beginCancel s q rsp = ({ s with cancel := some q }, rsp, [.runBeginCancel q s.scriptsRunning s.running.length])) ∨
    (rsp ≠ .cancelSignal .twice ∧ cancelLt s.cancel q = false ∧ beginCancel s q rsp = (s, .none, [])) := by
  unfold beginCancel
  split
  · exact Or.inl ⟨eq_of_beq ‹_›, rfl⟩
  · split
    · exact Or.inr (Or.inl ⟨‹_›, rfl⟩)
    · exact Or.inr (Or.inr ⟨fun h => ‹¬ (rsp == _) = true› (beq_iff_eq.mpr h), Bool.eq_false_iff.mpr ‹_›, rfl⟩)

/-- an event's own bookkeeping (to `s1`, emitting `em0`) followed by `begin_cancel`; the bookkeeping alone is given as a
    `Handled` with no response and no reply, which is what it would be without the call -/
theorem Handled.withCancel {s s1 : DState} {e : DEvent} {em0 : List Emitted} {q : CancelReason} {rsp : Response}
    (hq : cancelReason e = some q) (hrsp : rsp.isCancel = true)
    (h1 : Handled s e s1 .none .none em0) :
    Handled s e (withCancel s1 em0 q rsp).1 (withCancel s1 em0 q rsp).2.1 (withCancel s1 em0 q rsp).2.2.1
      (withCancel s1 em0 q rsp).2.2.2 := by
  obtain ⟨hc, h0⟩ := h1.quiet rfl
  simp only [Dispatcher.withCancel]
  rcases beginCancel_cases s1 q rsp with ⟨_, h⟩ | ⟨hlt, h⟩ | ⟨_, _, h⟩
  · rw [h]
    refine { h1 with starts := starts_append h1.starts rfl, cancel := Or.inl ⟨hc, ?_⟩ }
    rw [annOf_append, h0]
    rfl
  · rw [h]
    exact { h1 with
      starts := starts_append h1.starts rfl
      cancel := Or.inr ⟨q, hq, (cancelLt_iff_sev _ _).mp (hc ▸ hlt), rfl, hrsp, _, _, em0, rfl, h0⟩ }
  · rw [h, List.append_nil]
    exact { h1 with cancel := Or.inl ⟨hc, h0⟩ }

/-- a branch of `handle_event` that does not call `begin_cancel`: each field is what the effect functions say, by computation
    unless said otherwise -/
theorem Handled.plain {s st : DState} {e : DEvent} {resp : Response} {reply : Reply} {em : List Emitted}
    (running : st.running = runningEffect s e := by rfl) (rxOpen : st.rxOpen = rxOpenEffect s e := by rfl)
    (stats : st.stats = statsEffect s e := by rfl) (maxFail : st.maxFail = s.maxFail := by rfl)
    (signalCount : st.signalCount = s.signalCount + (if isShutdown e then 1 else 0) := by rfl)
    (answer : reply = replyEffect s e := by rfl) (cancel : st.cancel = s.cancel := by rfl)
    (starts : em.all (fun x => !isStart x || reply == .ack) = true := by rfl) (quiet : annOf em = [] := by rfl) :
    Handled s e st resp reply em := by
  refine ⟨running, rxOpen, stats, maxFail, signalCount, answer, fun x hx hs => ?_, Or.inl ⟨cancel, quiet⟩⟩
  have := List.all_eq_true.mp starts x hx
  rw [hs] at this
  exact eq_of_beq this

theorem DState.past_of_find {s : DState} {i : Nat} {e : Nat × List Res} (h : s.running.find? (·.1 == i) = some e) :
    s.past i = e.2 := by
  simp only [DState.past, h]

theorem stepCore_finished {s : DState} {i : Nat} {r : Res} {slow : Bool} {x : DState × Response × Reply × List Emitted}
    (h : stepCore s (.finished i r slow) = .ok x) :
    ∃ s1 em0, s1 = s.afterFinish i (statsEffect s (.finished i r slow)) ∧
      em0 = [Emitted.testFinished i (s.past i ++ [r]) s1.running.length s1.cancel s1.stats] ∧
      x = if s.maxFail.isExceeded s1.stats.failedCount then withCancel s1 em0 .testFailure .cancelTestFailure
        else (s1, .none, .none, em0) := by
  simp only [stepCore] at h
  split at h
  · cases h
  · rw [← DState.past_of_find ‹_›, ← apply_ite Except.ok] at h
    exact ⟨_, _, rfl, rfl, (Except.ok.inj h).symm⟩

theorem stepCore_ok {s : DState} {e : DEvent} {st : DState} {resp : Response} {reply : Reply} {em : List Emitted}
    (h : stepCore s e = .ok (st, resp, reply, em)) : Handled s e st resp reply em := by
  -- with the result as one variable, `cases h` has one substitution to make in each case and not four
  suffices ∀ x, stepCore s e = .ok x → Handled s e x.1 x.2.1 x.2.2.1 x.2.2.2 from this _ h
  clear h
  -- one case per clause of `stepCore`, numbered in the order of its text; `cases h` names the result, or settles a clause that panics
  fun_cases stepCore s e
  all_goals
    intro x h
    cases h
  -- `started` (3, 5), `retryStarted` (6, 7), `scriptStarted` (14, 16): refused since the run is cancelled, or acknowledged
  case case3 => exact .plain (running := (if_pos ‹_›).symm) (rxOpen := (if_pos ‹_›).symm) (answer := (if_pos ‹_›).symm)
  case case5 => exact .plain (running := (if_neg ‹_›).symm) (rxOpen := (if_neg ‹_›).symm) (answer := (if_neg ‹_›).symm)
  case case6 => exact .plain (answer := (if_pos ‹_›).symm)
  case case7 => exact .plain (answer := (if_neg ‹_›).symm)
  case case14 => exact .plain (answer := (if_pos ‹_›).symm)
  case case16 => exact .plain (answer := (if_neg ‹_›).symm)
  -- `finished`, the failure limit reached (11) or not (12): the test's past attempts are those found in `running_tests`
  case case11 => exact Handled.withCancel rfl rfl (.plain (stats := by rw [statsEffect, DState.past_of_find ‹_›]; rfl))
  case case12 => exact .plain (stats := by rw [statsEffect, DState.past_of_find ‹_›]; rfl)
  -- `scriptFinished` with a failure (18), `shutdown` (21), `reportCancel` (27): bookkeeping, then `begin_cancel`
  case case18 => exact Handled.withCancel rfl rfl .plain
  case case21 => exact Handled.withCancel (s1 := { s with signalCount := s.signalCount + 1 }) rfl rfl .plain
  case case27 => exact Handled.withCancel (s1 := s) rfl rfl .plain
  -- every other clause
  all_goals exact .plain

def DState.deliveries (s : DState) (resp : Response) : List (Option Nat × Req) :=
  match responseRequest resp with
  | none => []
  | some r => (s.broadcast r).1

theorem finishStep_eq (s : DState) (resp : Response) (reply : Reply) (em : List Emitted) :
    ∃ em' bc, (em' = em ∨ resp = .info ∧ ∃ n, em' = em ++ [.infoStarted n]) ∧ finishStep s resp reply em =
      (s, { response := resp, reply := reply, emitted := em', delivered := s.deliveries resp, broadcastCount := bc }) := by
  unfold finishStep DState.deliveries
  cases responseRequest resp with
  | none => exact ⟨em, _, Or.inl rfl, rfl⟩
  | some r =>
    refine ⟨_, _, ?_, rfl⟩
    split
    · exact Or.inr ⟨eq_of_beq ‹_›, _, rfl⟩
    · exact Or.inl rfl

theorem step_ok {s : DState} {e : DEvent} {s' : DState} {o : Out} (h : step s e = .ok (s', o)) :
    ∃ em, stepCore s e = .ok (s', o.response, o.reply, em) ∧
      (o.emitted = em ∨ o.response = .info ∧ ∃ n, o.emitted = em ++ [.infoStarted n]) ∧
      o.delivered = directDelivery s e ++ s'.deliveries o.response := by
  unfold step at h
  split at h
  · cases h
  · rename_i x hx
    obtain ⟨em', bc, hem, hf⟩ := finishStep_eq x.1 x.2.1 x.2.2.1 x.2.2.2
    rw [hf] at h
    cases h
    exact ⟨_, hx, hem, rfl⟩

theorem step_of_core {s : DState} {e : DEvent} {x : DState × Response × Reply × List Emitted} (h : stepCore s e = .ok x) :
    ∃ s' o, step s e = .ok (s', o) := by
  unfold step
  rw [h]
  exact ⟨_, _, rfl⟩

/-- `Handled` speaks of what `handle_event` emitted; the run loop adds an `InfoStarted` only to the response `.info`, which begins no
    cancellation, so it holds of what the whole step emitted too -/
theorem step_handled {s : DState} {e : DEvent} {s' : DState} {o : Out} (h : step s e = .ok (s', o)) :
    Handled s e s' o.response o.reply o.emitted := by
  obtain ⟨em, hc, hem | ⟨hr, n, hem⟩, -⟩ := step_ok h
  · rw [hem]
    exact stepCore_ok hc
  · rw [hem, hr]
    exact (hr ▸ stepCore_ok hc).info n

theorem step_delivered {s : DState} {e : DEvent} {s' : DState} {o : Out} (h : step s e = .ok (s', o)) :
    o.delivered = directDelivery s e ++ s'.deliveries o.response :=
  (step_ok h).elim fun _ h => h.2.2

theorem run_cons_ok {s : DState} {e : DEvent} {es : List DEvent} {s' : DState} {outs : List Out}
    (h : run s (e :: es) = .ok (s', outs)) :
    ∃ s1 o os, step s e = .ok (s1, o) ∧ run s1 es = .ok (s', os) ∧ outs = o :: os := by
  rw [run] at h
  split at h
  · cases h
  · rename_i s1 o hstep
    split at h
    · cases h
    · rename_i s2 os hrun
      cases h
      exact ⟨s1, o, os, hstep, hrun, rfl⟩

theorem run_invariant {P : DState → Prop} (hP : ∀ s e s' o, P s → step s e = .ok (s', o) → P s')
    {s : DState} {es : List DEvent} {s' : DState} {outs : List Out} (hs : P s) (h : run s es = .ok (s', outs)) :
    P s' := by
  induction es generalizing s outs with
  | nil => cases h; exact hs
  | cons e es ih =>
    obtain ⟨s1, o, os, hstep, hrun, -⟩ := run_cons_ok h
    exact ih (hP s e s1 o hs hstep) hrun

/-- from `s` to `s'` the counters that the exit status, the max-fail rule and the JUnit comparison read have moved by the given
    increments.  The lemmas below write an increment as `if … then 1 else 0`, the shape `List.countP_cons` and `List.filter_cons`
    produce, so that an equation between counts has the same term on both sides. -/
structure Stats.Counted (s s' : Stats) (dFinished dFailed dFlaky dScriptsFinished dScriptsFailed : Nat) : Prop where
  finishedCount : s'.finishedCount = s.finishedCount + dFinished
  failedCount : s'.failedCount = s.failedCount + dFailed
  flaky : s'.flaky = s.flaky + dFlaky
  setupScriptsFinishedCount : s'.setupScriptsFinishedCount = s.setupScriptsFinishedCount + dScriptsFinished
  failedSetupScriptCount : s'.failedSetupScriptCount = s.failedSetupScriptCount + dScriptsFailed
  initialRunCount : s'.initialRunCount = s.initialRunCount
  setupScriptsInitialCount : s'.setupScriptsInitialCount = s.setupScriptsInitialCount

/-- one more in the first or in the second of the three counters that a failure count adds up -/
private theorem failed_bump (a b c : Nat) : a + 1 + b + c = a + b + c + 1 ∧ a + (b + 1) + c = a + b + c + 1 := by omega

theorem Stats.onTestFinished_counts (s : Stats) (r : Res) (slow : Bool) (n : Nat) :
    Stats.Counted s (s.onTestFinished r slow n) 1 (if !r.isSuccess then 1 else 0)
      (if r.isSuccess && decide (n > 1) then 1 else 0) 0 0 := by
  have flaky : (if n > 1 then s.flaky + 1 else s.flaky) = s.flaky + (if true && decide (n > 1) then 1 else 0) := by
    split <;> simp [*]
  cases r with
  | pass => exact ⟨rfl, rfl, flaky, rfl, rfl, rfl, rfl⟩
  | leak => exact ⟨rfl, rfl, flaky, rfl, rfl, rfl, rfl⟩
  | fail => exact ⟨rfl, (failed_bump ..).1, rfl, rfl, rfl, rfl, rfl⟩
  | execFail => exact ⟨rfl, (failed_bump ..).2, rfl, rfl, rfl, rfl, rfl⟩
  | timeout => exact ⟨rfl, rfl, rfl, rfl, rfl, rfl, rfl⟩

theorem Stats.onScriptFinished_counts (s : Stats) (r : Res) :
    Stats.Counted s (s.onScriptFinished r) 0 0 0 1 (if !r.isSuccess then 1 else 0) := by
  cases r with
  | pass => exact ⟨rfl, rfl, rfl, rfl, rfl, rfl, rfl⟩
  | leak => exact ⟨rfl, rfl, rfl, rfl, rfl, rfl, rfl⟩
  | fail => exact ⟨rfl, rfl, rfl, rfl, (failed_bump ..).1, rfl, rfl⟩
  | execFail => exact ⟨rfl, rfl, rfl, rfl, (failed_bump ..).2, rfl, rfl⟩
  | timeout => exact ⟨rfl, rfl, rfl, rfl, rfl, rfl, rfl⟩

end NextestModel.Dispatcher
