/-
  `Model/Filter` through its truth values.  `filterMatch` is characterised by whether the stages before the partitioner accept
  the test (`filterMatch_of_passesOther`, `filterMatch_of_not_passesOther`).  `BinMatch.isMatch` turns `logicOr`, `logicAnd`
  and the fold of `filterBinaryMatch` into `||`, `&&` and `any`: the binary-level verdict is the formula that `exprStage`
  evaluates at test level, read over three-valued answers.  The partitioners as functions of the position and of the name
  (`count_run_from`, `hash_run_map`; hence every candidate is in exactly one shard, `shards_partition_gen`).
-/
import NextestModel.Model.Filter
namespace NextestModel

-- in `C13`: the notion that property's statements are written with
namespace C13
/-- a test passes every stage other than the partition -/
def passesOther (cfg : FilterCfg) (ig : Bool) (t : TestIn) : Bool :=
  !ignoredMismatch cfg.runIgnored ig && (nameStage cfg t).isNone && (exprStage cfg t).isNone

theorem passesOther_iff (cfg : FilterCfg) (ig : Bool) (t : TestIn) : passesOther cfg ig t = true ↔
    ignoredMismatch cfg.runIgnored ig = false ∧ nameStage cfg t = none ∧ exprStage cfg t = none := by
  simp [passesOther, and_assoc]

theorem filterMatch_of_passesOther (cfg : FilterCfg) (c : Nat) (t : TestIn) (ig : Bool)
    (h : passesOther cfg ig t = true) : filterMatch cfg c t ig =
      match cfg.partition with
      | none => (.matches, c)
      | some p => (if (p.step c t.name).1 then .matches else .mismatch .partition, (p.step c t.name).2) := by
  obtain ⟨h1, h2, h3⟩ := (passesOther_iff cfg ig t).mp h
  unfold filterMatch partitionStage
  cases cfg.partition with
  | none => simp [h1, h2, h3]
  | some p => cases hv : (p.step c t.name).1 <;> simp [h1, h2, h3, hv]

theorem filterMatch_of_not_passesOther (cfg : FilterCfg) (c : Nat) (t : TestIn) (ig : Bool)
    (h : passesOther cfg ig t = false) : ∃ r, r ≠ .partition ∧ filterMatch cfg c t ig = (.mismatch r, c) := by
  unfold filterMatch
  cases hi : ignoredMismatch cfg.runIgnored ig
  · cases hn : nameStage cfg t with
    | some r =>
      refine ⟨r, ?_, rfl⟩
      unfold nameStage at hn
      split at hn <;> cases hn
      nofun
    | none =>
      cases he : exprStage cfg t with
      | some r =>
        refine ⟨r, ?_, rfl⟩
        unfold exprStage at he
        split at he
        · cases he
          nofun
        · split at he <;> cases he
          nofun
      | none => simp [passesOther, hi, hn, he] at h
  · exact ⟨.ignored, nofun, rfl⟩

theorem count_run_from (h : Name → Nat) (m n : Nat) (hn : 0 < n) (L : List Name) (c : Nat) (hc : c < n) :
    Partition.runWith h { kind := .count, shard := m, total := n } c L =
      (List.range L.length).map (fun i => (c + i) % n == m - 1) := by
  induction L generalizing c with
  | nil => rfl
  | cons x xs ih =>
    -- the head is judged in state `c`, the tail from state `(c + 1) % n`
    rw [Partition.runWith, List.length_cons, List.range_succ_eq_map, List.map_cons, List.map_map]
    simp only [Partition.stepWith, countStep]
    rw [ih _ (Nat.mod_lt _ hn)]
    congr 1
    · rw [Nat.add_zero, Nat.mod_eq_of_lt hc]
    · refine List.map_congr_left fun i _ => ?_
      simp [Nat.add_assoc, Nat.add_comm 1 i]

theorem hash_run_map (h : Name → Nat) (m n : Nat) (L : List Name) (c : Nat) :
    Partition.runWith h { kind := .hash, shard := m, total := n } c L = L.map (hashMatchesWith h m n) := by
  induction L generalizing c with
  | nil => rfl
  | cons x xs ih => simp [Partition.runWith, Partition.stepWith, ih]

theorem shards_partition_gen (h : Name → Nat) (k : PartKind) (n : Nat) (hn : 0 < n) (L : List Name)
    (i : Nat) (hi : i < L.length) :
    ∃ m, 1 ≤ m ∧ m ≤ n ∧ (Partition.runWith h { kind := k, shard := m, total := n } 0 L)[i]? = some true ∧
      ∀ m', 1 ≤ m' → m' ≤ n →
        (Partition.runWith h { kind := k, shard := m', total := n } 0 L)[i]? = some true → m' = m := by
  -- candidate `i` goes to the shard numbered `s % n` from 0, where `s` is its position or its name's hash
  obtain ⟨s, hs⟩ : ∃ s, ∀ m,
      (Partition.runWith h { kind := k, shard := m, total := n } 0 L)[i]? = some (s % n == m - 1) := by
    cases k with
    | count => exact ⟨i, fun m => by simp [count_run_from h m n hn L 0 hn, hi]⟩
    | hash => exact ⟨h L[i], fun m => by simp [hash_run_map, hi, hashMatchesWith]⟩
  refine ⟨s % n + 1, Nat.succ_pos _, Nat.mod_lt s hn, by simp [hs], fun m' h1 _ hm => ?_⟩
  rw [hs] at hm
  rw [beq_iff_eq.mp (Option.some.inj hm), Nat.sub_add_cancel h1]

end C13

theorem exprStage_of_matches (cfg : FilterCfg) (c : Nat) (t : TestIn) (ig : Bool)
    (h : (filterMatch cfg c t ig).1 = .matches) : exprStage cfg t = none := by
  cases hp : C13.passesOther cfg ig t
  · obtain ⟨r, _, hr⟩ := C13.filterMatch_of_not_passesOther cfg c t ig hp
    rw [hr] at h
    cases h
  · exact ((C13.passesOther_iff cfg ig t).mp hp).2.2

/-- the two tests of `exprStage`, each in the positive: some `-E` set accepts (or there is none), the default filter accepts
    (or is not bound) -/
theorem exprStage_eq (cfg : FilterCfg) (t : TestIn) :
    exprStage cfg t =
      if !(cfg.nExprs == 0 || t.exprBits.any id) then some .expression
      else if !(!cfg.boundDefault || t.inDefault) then some .defaultFilter else none := by
  simp only [exprStage, bne, Bool.not_or, Bool.not_not]

theorem exprStage_isNone (cfg : FilterCfg) (t : TestIn) :
    (exprStage cfg t).isNone =
      ((cfg.nExprs == 0 || t.exprBits.any id) && (!cfg.boundDefault || t.inDefault)) := by
  rw [exprStage_eq]
  cases (cfg.nExprs == 0 || t.exprBits.any id) <;> cases (!cfg.boundDefault || t.inDefault) <;> rfl

theorem isMatch_logicOr (a b : BinMatch) : (a.logicOr b).isMatch = (a.isMatch || b.isMatch) := by
  cases a <;> cases b <;> rfl

theorem isMatch_logicAnd (a b : BinMatch) : (a.logicAnd b).isMatch = (a.isMatch && b.isMatch) := by
  cases a <;> cases b <;> rfl

theorem isMatch_fromResult (t : Option Bool) (r : BinReason) :
    (BinMatch.fromResult t r).isMatch = (t != some false) := by
  cases t with
  | none => rfl
  | some b => cases b <;> rfl

theorem isMatch_foldl_logicOr {α} (f : α → BinMatch) (l : List α) (acc : BinMatch) :
    (l.foldl (fun acc x => acc.logicOr (f x)) acc).isMatch = (acc.isMatch || l.any fun x => (f x).isMatch) := by
  induction l generalizing acc with
  | nil => simp
  | cons x xs ih => rw [List.foldl_cons, ih, isMatch_logicOr, List.any_cons, Bool.or_assoc]

/-- compare `exprStage_isNone`: the same formula, with "is not a definite mismatch" for "is true" -/
theorem isMatch_filterBinaryMatch (trits : List (Option Bool)) (bd : Bool) (dt : Option Bool) :
    (filterBinaryMatch trits bd dt).isMatch =
      ((trits.isEmpty || trits.any (· != some false)) && (!bd || dt != some false)) := by
  unfold filterBinaryMatch
  generalize he : (if trits.isEmpty then BinMatch.definite else _) = e
  have : e.isMatch = (trits.isEmpty || trits.any (· != some false)) := by
    subst he
    cases trits.isEmpty
    · simp only [Bool.false_eq_true, if_false, isMatch_foldl_logicOr, isMatch_fromResult]
      rfl
    · rfl
  rw [← this]
  cases h : e.isMatch <;> cases bd <;> simp [h, isMatch_logicAnd, isMatch_fromResult]

end NextestModel
