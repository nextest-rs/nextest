/-
  The scheduler in small steps.  `pull`, `drainGroup` and `complete` are loops; every one of them is a sequence of three
  kinds of atomic move (`Move`: launch the head of the stream, park it, unpark the head of a group queue), `complete` after
  taking one future out (`SState.remove`).  So an invariant is checked on the three moves and on `remove` (`step_preserves`),
  and no proof about an invariant looks inside the loops.
-/
import NextestModel.Model.Sched
namespace NextestModel.Sched

theorem getD_setAt {α} (l : List α) (i j : Nat) (v d : α) :
    (setAt l i v).getD j d = if i = j ∧ i < l.length then v else l.getD j d := by
  simp only [setAt, List.getD_eq_getElem?_getD, List.getElem?_set]
  by_cases h : i = j
  · subst h
    by_cases hl : i < l.length <;> simp [hl]
  · simp [h]

theorem getD_eq_default {α} (l : List α) (i : Nat) (d : α) (h : l.length ≤ i) : l.getD i d = d := by
  simp [List.getD_eq_getElem?_getD, List.getElem?_eq_none h]

theorem getD_map_const {α β} (l : List α) (i : Nat) (d : β) : (l.map fun _ => d).getD i d = d := by
  simp only [List.getD_eq_getElem?_getD, List.getElem?_map]
  cases l[i]? <;> rfl

theorem perm_cons_eraseP {α} {p : α → Bool} {l : List α} {x : α} (h : l.find? p = some x) : l.Perm (x :: l.eraseP p) := by
  obtain ⟨hp, l₁, l₂, rfl, hl⟩ := List.find?_eq_some_iff_append.mp h
  rw [List.eraseP_append_right _ (by simpa using hl), List.eraseP_cons_of_pos hp]
  exact List.perm_middle

theorem sum_eraseP {α} {p : α → Bool} {l : List α} {x : α} (f : α → Nat) (h : l.find? p = some x) :
    (l.map f).sum = f x + ((l.eraseP p).map f).sum :=
  ((perm_cons_eraseP h).map f).sum_nat

/-- the members of `l` that `f` picks, each weighing at least 1, are no more than the total weight: slot holders against the
    weight accounted for them (`GlobalOk.length_le`, `gheld_length_lt`) -/
theorem length_filterMap_le_sum {α β} (f : α → Option β) (w : α → Nat) (l : List α)
    (h : ∀ a ∈ l, (f a).isSome → 1 ≤ w a) : (l.filterMap f).length ≤ (l.map w).sum := by
  induction l with
  | nil => exact Nat.le_refl _
  | cons a l ih =>
    have ih := ih fun b hb => h b (List.mem_cons_of_mem _ hb)
    rw [List.map_cons, List.sum_cons, List.filterMap_cons]
    cases hf : f a with
    | none => exact Nat.le_trans ih (Nat.le_add_left ..)
    | some _ => exact Nat.add_comm .. ▸ Nat.add_le_add ih (h a (List.mem_cons_self ..) (hf ▸ rfl))

theorem hasSpace_le {cur max w : Nat} (h : hasSpace cur max w = true) : cur + min w max ≤ max :=
  Nat.add_le_of_le_sub (Nat.min_le_right w max) (of_decide_eq_true h)

theorem hasSpace_lt {cur max w : Nat} (h : hasSpace cur max w = true) (hw : 1 ≤ w) (hm : 1 ≤ max) : cur < max :=
  Nat.lt_of_lt_of_le (Nat.lt_add_of_pos_right (Nat.lt_min.mpr ⟨hw, hm⟩)) (hasSpace_le h)

theorem hasSpace_zero (max w : Nat) : hasSpace 0 max w = true := by simp [hasSpace]

/-- what a future gives back makes room for any item of its weight -/
theorem hasSpace_sub {cur max : Nat} (h : cur ≤ max) (w : Nat) : hasSpace (cur - min w max) max w = true :=
  decide_eq_true (Nat.sub_le_sub_right h _)

theorem pos_of_hasSpace_false {cur max w : Nat} (h : hasSpace cur max w = false) : 0 < cur := by
  apply Nat.pos_of_ne_zero
  intro hz
  rw [hz, hasSpace_zero] at h
  cases h

/-- what `start` (`op` = +) and `complete` (`op` = -) do to the accounted group weights: the item's weight, capped at its group's
    max-threads, goes onto or off its group's entry -/
def account (op : Nat → Nat → Nat) (gm gcur : List Nat) (it : Item) : List Nat :=
  match it.group with
  | none => gcur
  | some g => setAt gcur g (op (gcur.getD g 0) (min it.weight (gm.getD g 0)))

theorem length_account (op : Nat → Nat → Nat) (gm gcur : List Nat) (it : Item) : (account op gm gcur it).length = gcur.length := by
  unfold account
  cases it.group <;> simp [setAt]

theorem getD_account {gcur gm : List Nat} (hl : gcur.length = gm.length) (op : Nat → Nat → Nat) (hop : ∀ x, op x 0 = x)
    (it : Item) (g : Nat) : (account op gm gcur it).getD g 0 =
      op (gcur.getD g 0) (if it.group = some g then min it.weight (gm.getD g 0) else 0) := by
  unfold account
  cases it.group with
  | none => exact (hop _).symm
  | some g' =>
    rw [getD_setAt]
    by_cases hgg : g' = g
    · subst hgg
      by_cases hlt : g' < gcur.length
      · rw [if_pos ⟨rfl, hlt⟩, if_pos rfl]
      · -- a group that is not configured has max-threads 0, and writing its entry changes nothing
        rw [if_neg fun h => hlt h.2, if_pos rfl, getD_eq_default gm g' 0 (hl ▸ Nat.le_of_not_lt hlt), Nat.min_zero, hop]
    · rw [if_neg fun h => hgg h.1, if_neg fun e => hgg (Option.some.inj e), hop]

section start
variable (s : SState) (it : Item)

/-- `start` without its case distinction on the group -/
theorem start_eq : s.start it =
    let r : Running := ⟨it, s.slots.reserve.1, it.group.map fun g => (s.gslots.getD g {}).reserve.1⟩
    ({ s with cur := s.cur + min it.weight s.maxW, slots := s.slots.reserve.2, running := s.running ++ [r],
              gcur := account (· + ·) s.groupMax s.gcur it,
              gslots := match it.group with
                | none => s.gslots
                | some g => setAt s.gslots g (s.gslots.getD g {}).reserve.2 }, r) := by
  unfold SState.start account
  cases it.group <;> rfl

@[simp] theorem start_item : (s.start it).2.item = it := by rw [start_eq]
@[simp] theorem start_globalSlot : (s.start it).2.globalSlot = s.slots.reserve.1 := by rw [start_eq]
theorem start_groupSlot : (s.start it).2.groupSlot = it.group.map fun g => (s.gslots.getD g {}).reserve.1 := by rw [start_eq]
@[simp] theorem start_maxW : (s.start it).1.maxW = s.maxW := by rw [start_eq]
@[simp] theorem start_groupMax : (s.start it).1.groupMax = s.groupMax := by rw [start_eq]
@[simp] theorem start_pending : (s.start it).1.pending = s.pending := by rw [start_eq]
@[simp] theorem start_queues : (s.start it).1.queues = s.queues := by rw [start_eq]
@[simp] theorem start_cur : (s.start it).1.cur = s.cur + min it.weight s.maxW := by rw [start_eq]
@[simp] theorem start_slots : (s.start it).1.slots = s.slots.reserve.2 := by rw [start_eq]
@[simp] theorem start_running : (s.start it).1.running = s.running ++ [(s.start it).2] := by rw [start_eq]
theorem start_gcur : (s.start it).1.gcur = account (· + ·) s.groupMax s.gcur it := by rw [start_eq]
theorem start_gslots_length : (s.start it).1.gslots.length = s.gslots.length := by
  rw [start_eq]
  cases it.group <;> simp [setAt]

theorem start_gslots {g : Nat} (hg : g < s.gslots.length) :
    (s.start it).1.gslots.getD g {} = if it.group = some g then (s.gslots.getD g {}).reserve.2 else s.gslots.getD g {} := by
  rw [start_eq]
  cases it.group with
  | none => rfl
  | some g₀ =>
    refine (getD_setAt ..).trans ?_
    by_cases hgg : g₀ = g
    · rw [if_pos ⟨hgg, hgg ▸ hg⟩, if_pos (hgg ▸ rfl), hgg]
    · rw [if_neg fun h => hgg h.1, if_neg fun e => hgg (Option.some.inj e)]

end start

/-- `k`: the group whose limit the loop tests — `it.group` in `pull`, the group of the drained queue in `drainGroup` -/
def Fits (s : SState) (it : Item) (k : Option Nat) : Prop :=
  hasSpace s.cur s.maxW it.weight = true ∧ ∀ g, k = some g → hasSpace (s.gcur.getD g 0) (s.groupMax.getD g 0) it.weight = true

/-- what one turn of the loops in `pull` and `drainGroup` does; the list is the item whose future the move creates.
    The guards are the model's: `pull` tests the group the item names, `drainGroup g` tests group `g`, whose queue it drains,
    whatever `it.group` says — while `start` accounts to `it.group`.  That the two agree is the invariant `QueuesOk`
    (Lemmas/Sched), not a premise of `unpark`: the moves are read off the loops with no invariant at hand (`drain_moves`), so
    that an invariant which does not need `QueuesOk` is kept by `step_preserves` on its own. -/
inductive Move : SState → List Item → SState → Prop
  | launch {s : SState} {it : Item} {rest : List Item} : s.pending = it :: rest → Fits s it it.group →
      Move s [it] ({ s with pending := rest }.start it).1
  | park {s : SState} {it : Item} {rest : List Item} {g : Nat} : s.pending = it :: rest → it.group = some g →
      hasSpace (s.gcur.getD g 0) (s.groupMax.getD g 0) it.weight = false →
      Move s [] { s with pending := rest, queues := setAt s.queues g (s.queues.getD g [] ++ [it]) }
  | unpark {s : SState} {g : Nat} {it : Item} {rest : List Item} : s.queues.getD g [] = it :: rest → Fits s it (some g) →
      Move s [it] ({ s with queues := setAt s.queues g rest }.start it).1

theorem Move.consts {s t : SState} {a : List Item} (m : Move s a t) :
    t.maxW = s.maxW ∧ t.groupMax = s.groupMax ∧ t.queues.length = s.queues.length := by
  cases m <;> simp [setAt]

theorem mem_queue_park {qs : List (List Item)} {g g' : Nat} {it x : Item}
    (h : x ∈ (setAt qs g (qs.getD g [] ++ [it])).getD g' []) : x ∈ qs.getD g' [] ∨ g = g' ∧ x = it := by
  rw [getD_setAt] at h
  split at h
  · rename_i hc
    rw [← hc.1]
    simpa using h
  · exact .inl h

theorem mem_queue_pop {qs : List (List Item)} {g g' : Nat} {it x : Item} {rest : List Item} (hq : qs.getD g [] = it :: rest)
    (h : x ∈ (setAt qs g rest).getD g' []) : x ∈ qs.getD g' [] := by
  rw [getD_setAt] at h
  split at h
  · rename_i hc
    rw [← hc.1, hq]
    exact List.mem_cons_of_mem _ h
  · exact h

inductive Moves : SState → List Item → SState → Prop
  | nil (s : SState) : Moves s [] s
  | cons {s t u : SState} {a b : List Item} : Move s a t → Moves t b u → Moves s (a ++ b) u

theorem Moves.preserves {P : SState → Prop} (hm : ∀ {s a t}, P s → Move s a t → P t) {s t : SState} {a : List Item}
    (h : Moves s a t) (hs : P s) : P t := by
  induction h with
  | nil => exact hs
  | cons m _ ih => exact ih (hm hs m)

theorem Moves.append {s t u : SState} {a b : List Item} (h₁ : Moves s a t) (h₂ : Moves t b u) : Moves s (a ++ b) u := by
  induction h₁ with
  | nil => exact h₂
  | cons m _ ih => rw [List.append_assoc]; exact .cons m (ih h₂)

theorem pull_succ (s : SState) (fuel : Nat) :
    (s.pull (fuel + 1) = (s, []) ∧ ∀ it rest, s.pending = it :: rest → hasSpace s.cur s.maxW it.weight = false) ∨
    ∃ a t, Move s a t ∧ s.pending.length = t.pending.length + 1 ∧
      (s.pull (fuel + 1)).1 = (t.pull fuel).1 ∧ (s.pull (fuel + 1)).2.map (·.item) = a ++ (t.pull fuel).2.map (·.item) := by
  simp only [SState.pull]
  split
  · rename_i hp
    exact .inl ⟨rfl, fun _ _ h => by rw [hp] at h; cases h⟩
  · rename_i it rest hp
    split
    · rename_i hsp
      refine .inl ⟨rfl, fun _ _ h => ?_⟩
      rw [hp] at h
      cases h
      simpa using hsp
    · rename_i hsp
      simp only [Bool.not_eq_true, Bool.not_eq_false'] at hsp
      right
      split
      · rename_i hg
        exact ⟨[it], _, .launch hp ⟨hsp, by simp [hg]⟩, by simp [hp], rfl, by simp⟩
      · rename_i g hg
        split
        · rename_i hsg
          refine ⟨[it], _, .launch hp ⟨hsp, fun g' hg' => ?_⟩, by simp [hp], rfl, by simp⟩
          rw [hg] at hg'
          cases hg'
          exact hsg
        · rename_i hsg
          exact ⟨[], _, .park hp hg (by simpa using hsg), by simp [hp], rfl, rfl⟩

theorem pull_moves : ∀ (fuel : Nat) (s : SState), Moves s ((s.pull fuel).2.map (·.item)) (s.pull fuel).1
  | 0, s => .nil s
  | fuel + 1, s => by
    rcases pull_succ s fuel with ⟨h, _⟩ | ⟨a, t, m, _, h1, h2⟩
    · rw [h]
      exact .nil s
    · rw [h1, h2]
      exact .cons m (pull_moves fuel t)

theorem pull_stops : ∀ (fuel : Nat) (s : SState), s.pending.length < fuel → ∀ it rest, (s.pull fuel).1.pending = it :: rest →
    hasSpace (s.pull fuel).1.cur (s.pull fuel).1.maxW it.weight = false
  | 0, _, h => by omega
  | fuel + 1, s, h => by
    rcases pull_succ s fuel with ⟨h0, hstop⟩ | ⟨_, t, _, hl, h1, _⟩
    · rw [h0]
      exact hstop
    · rw [h1]
      exact pull_stops fuel t (by omega)

-- names the head and the successor state where `pull_succ` hands back a `Move`: `drain_live` (Lemmas/SchedLive) has to know
-- that the turn unparks the head of queue `g` itself
theorem drain_succ (s : SState) (g fuel : Nat) :
    (s.drainGroup g (fuel + 1) = (s, []) ∧ ∀ it rest, s.queues.getD g [] = it :: rest → ¬ Fits s it (some g)) ∨
    ∃ it rest t, s.queues.getD g [] = it :: rest ∧ Fits s it (some g) ∧ t = ({ s with queues := setAt s.queues g rest }.start it).1 ∧
      (s.drainGroup g (fuel + 1)).1 = (t.drainGroup g fuel).1 ∧
      (s.drainGroup g (fuel + 1)).2.map (·.item) = it :: (t.drainGroup g fuel).2.map (·.item) := by
  rw [SState.drainGroup]
  split
  · rename_i hq
    exact .inl ⟨rfl, fun _ _ h => by rw [hq] at h; cases h⟩
  · rename_i it rest hq
    split
    · rename_i hf
      simp only [Bool.and_eq_true] at hf
      exact .inr ⟨it, rest, _, hq, ⟨hf.1, fun _ e => Option.some.inj e ▸ hf.2⟩, rfl, rfl, by simp⟩
    · rename_i hf
      refine .inl ⟨rfl, fun _ _ h hf' => hf ?_⟩
      rw [hq] at h
      cases h
      exact Bool.and_eq_true_iff.mpr ⟨hf'.1, hf'.2 g rfl⟩

theorem drain_moves (g : Nat) : ∀ (fuel : Nat) (s : SState),
    Moves s ((s.drainGroup g fuel).2.map (·.item)) (s.drainGroup g fuel).1
  | 0, s => .nil s
  | fuel + 1, s => by
    rcases drain_succ s g fuel with ⟨h, _⟩ | ⟨it, rest, t, hq, hf, rfl, h1, h2⟩
    · rw [h]
      exact .nil s
    · rw [h1, h2]
      exact .cons (a := [it]) (.unpark hq hf) (drain_moves g fuel _)

/-- the state `complete` drains and refills from: the future is gone, its weights and slots are released -/
def SState.remove (s : SState) (id : Nat) (r : Running) : SState :=
  { s with
    running := s.running.eraseP (fun x => x.item.id == id)
    cur := s.cur - min r.item.weight s.maxW
    slots := s.slots.release r.globalSlot
    gcur := match r.item.group, r.groupSlot with
      | some g, some _ => setAt s.gcur g (s.gcur.getD g 0 - min r.item.weight (s.groupMax.getD g 0))
      | _, _ => s.gcur
    gslots := match r.item.group, r.groupSlot with
      | some g, some gsl => setAt s.gslots g ((s.gslots.getD g {}).release gsl)
      | _, _ => s.gslots }

section remove
variable (s : SState) (id : Nat) (r : Running)

@[simp] theorem remove_maxW : (s.remove id r).maxW = s.maxW := rfl
@[simp] theorem remove_groupMax : (s.remove id r).groupMax = s.groupMax := rfl
@[simp] theorem remove_pending : (s.remove id r).pending = s.pending := rfl
@[simp] theorem remove_queues : (s.remove id r).queues = s.queues := rfl
@[simp] theorem remove_running : (s.remove id r).running = s.running.eraseP (fun x => x.item.id == id) := rfl
@[simp] theorem remove_cur : (s.remove id r).cur = s.cur - min r.item.weight s.maxW := rfl
@[simp] theorem remove_slots : (s.remove id r).slots = s.slots.release r.globalSlot := rfl

end remove

/-- `hr`: a future with a group holds a group slot, as `start` makes them -/
theorem remove_gcur {s : SState} {id : Nat} {r : Running} (hr : r.item.group.isSome → r.groupSlot.isSome) :
    (s.remove id r).gcur = account (· - ·) s.groupMax s.gcur r.item := by
  unfold SState.remove account
  cases hg : r.item.group with
  | none => rfl
  | some g =>
    obtain ⟨_, hs⟩ := Option.isSome_iff_exists.mp (hr (hg ▸ rfl))
    rw [hs]

/-- the first loop of `complete`, on the state the future `r` was taken out of: over the queue of `r`'s group, if it had one -/
def SState.drainAfter (t : SState) (r : Running) : SState × List Running :=
  match r.item.group, r.groupSlot with
  | some g, some _ => t.drainGroup g ((t.queues.getD g []).length + 1)
  | _, _ => (t, [])

theorem drainAfter_moves (t : SState) (r : Running) : Moves t ((t.drainAfter r).2.map (·.item)) (t.drainAfter r).1 := by
  unfold SState.drainAfter
  split
  · exact drain_moves _ _ _
  · exact .nil _

theorem complete_eq (s : SState) (id : Nat) : s.complete id = (s.running.find? (fun r => r.item.id == id)).map fun r =>
    let d := (s.remove id r).drainAfter r
    (d.1.first.1, d.2 ++ d.1.first.2) := by
  unfold SState.complete SState.remove SState.drainAfter SState.first
  cases s.running.find? (fun r => r.item.id == id) with
  | none => rfl
  | some r =>
    dsimp only [Option.map_some]
    cases r.item.group <;> cases r.groupSlot <;> rfl

/-- `step` is `first`, after nothing (`poll`) or after `remove` and `drainAfter` (`complete`).  `step_moves` forgets the loops;
    Lemmas/SchedLive needs them: where `pull` stops, what the first turn of `drainGroup` finds. -/
theorem step_some {s s' : SState} {op : Op} {st : List Running} (h : s.step op = some (s', st)) :
    ∃ d : SState × List Running,
      (d = (s, []) ∨ ∃ id r, s.running.find? (fun r => r.item.id == id) = some r ∧ d = (s.remove id r).drainAfter r) ∧
      s' = d.1.first.1 ∧ st = d.2 ++ d.1.first.2 := by
  cases op with
  | poll =>
    have h : s.first = (s', st) := Option.some.inj h
    exact ⟨(s, []), .inl rfl, by rw [h], by rw [h]; rfl⟩
  | complete id =>
    rw [SState.step, complete_eq, Option.map_eq_some_iff] at h
    obtain ⟨r, hf, h⟩ := h
    obtain ⟨rfl, rfl⟩ := Prod.mk.inj h
    exact ⟨_, .inr ⟨id, r, hf, rfl⟩, rfl, rfl⟩

theorem step_moves {s s' : SState} {op : Op} {st : List Running} (h : s.step op = some (s', st)) :
    ∃ t, (t = s ∨ ∃ id r, s.running.find? (fun r => r.item.id == id) = some r ∧ t = s.remove id r) ∧
      Moves t (st.map (·.item)) s' := by
  obtain ⟨d, hd, rfl, rfl⟩ := step_some h
  have hfirst : Moves d.1 (d.1.first.2.map (·.item)) d.1.first.1 := pull_moves _ d.1
  rw [List.map_append]
  rcases hd with rfl | ⟨id, r, hf, rfl⟩
  · exact ⟨s, .inl rfl, hfirst⟩
  · exact ⟨_, .inr ⟨id, r, hf, rfl⟩, (drainAfter_moves (s.remove id r) r).append hfirst⟩

theorem step_preserves {P : SState → Prop} (hm : ∀ {s a t}, P s → Move s a t → P t)
    (hr : ∀ {s id r}, P s → s.running.find? (fun r => r.item.id == id) = some r → P (s.remove id r))
    {s s' : SState} {op : Op} {st : List Running} (hs : P s) (h : s.step op = some (s', st)) : P s' := by
  obtain ⟨t, ht, hmv⟩ := step_moves h
  refine hmv.preserves hm ?_
  rcases ht with rfl | ⟨id, r, hf, rfl⟩
  · exact hs
  · exact hr hs hf

theorem step_consts {s s' : SState} {op : Op} {st : List Running} (h : s.step op = some (s', st)) :
    s'.maxW = s.maxW ∧ s'.groupMax = s.groupMax :=
  step_preserves (P := fun t => t.maxW = s.maxW ∧ t.groupMax = s.groupMax)
    (fun ht m => ⟨m.consts.1.trans ht.1, m.consts.2.1.trans ht.2⟩) (fun ht _ => ht) ⟨rfl, rfl⟩ h

end NextestModel.Sched
