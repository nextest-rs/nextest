/-
  Whole-expression round trip (C20 `print_parse_roundtrip`): parsing the printed form of any expression of the shape the
  parser produces yields that expression again (modulo source spans), consumes exactly the printed text and reports nothing.

  The matcher-level round trip is a parameter (`hm`), discharged in Thm/C20 by `matcher_roundtrip`.
-/
import NextestModel.Lemmas.StringRoundTrip
namespace NextestModel.ExprRT
open NextestModel NextestModel.Syntax

/-- The characters of the operator keywords.  A literal unifies with `String.ofList _`, so `String.toList_ofList` gives its
    characters outright; `simp` or `decide` would evaluate `String.toList` (the kernel, too: it decodes the literal from UTF-8),
    once for every occurrence.  Hence `rw [String.toList_ofList]` wherever a literal of the printers meets the parser below. -/
theorem opKeywords :
    "not ".toList = ['n', 'o', 't', ' '] ∧ "or ".toList = ['o', 'r', ' '] ∧ "and ".toList = ['a', 'n', 'd', ' '] ∧
    "||".toList = ['|', '|'] ∧ "OR ".toList = ['O', 'R', ' '] ∧ "&&".toList = ['&', '&'] ∧ "AND ".toList = ['A', 'N', 'D', ' '] :=
  ⟨String.toList_ofList, String.toList_ofList, String.toList_ofList, String.toList_ofList, String.toList_ofList,
    String.toList_ofList, String.toList_ofList⟩

/-- neither word is a prefix of the other: they differ at a position both have, whatever follows them -/
abbrev Apart (a b : List Char) : Prop := ¬ a <+: b ∧ ¬ b <+: a

theorem lit_none_of_apart (kw : String) (w R : List Char) (h : Apart kw.toList w) : lit kw (w ++ R) = none := by
  rw [lit_eq, if_neg]
  intro hp
  exact (List.prefix_or_prefix_of_prefix (List.isPrefixOf_iff_prefix.mp hp) (List.prefix_append w R)).elim h.1 h.2

theorem alt_none {α : Type} (st : St) (w R : List Char) (a : String × (St → α)) (h : Apart a.1.toList w) :
    alt (st.withRest (w ++ R)) a = none := by
  obtain ⟨kw, body⟩ := a
  rw [alt, withRest_rest, lit_none_of_apart kw w R h]
  rfl

theorem findSome?_alt_keyword {α : Type} (st : St) (R : List Char) (kw : String) (body : St → α) (alts : List (String × (St → α)))
    (hp : alts.Pairwise fun x y => Apart x.1.toList (y.1.toList ++ ['('])) (ha : (kw, body) ∈ alts) :
    alts.findSome? (alt (st.withRest (kw.toList ++ '(' :: R))) = some (body (st.withRest ('(' :: R))) := by
  obtain ⟨l₁, l₂, rfl⟩ := List.append_of_mem ha
  refine List.findSome?_eq_some_iff.mpr ⟨l₁, (kw, body), l₂, rfl, ?_, fun x hx => ?_⟩
  · simp only [alt, withRest_rest, lit_append, Option.map_some, withRest_withRest]
  · have := alt_none st (kw.toList ++ ['(']) R x ((List.pairwise_append.mp hp).2.2 x hx (kw, body) List.mem_cons_self)
    rwa [List.append_assoc] at this

/-- the keywords of `parse_set_def` in `alt` order -/
def setDefWords : List (List Char) :=
  [['p', 'a', 'c', 'k', 'a', 'g', 'e'], ['d', 'e', 'p', 's'], ['r', 'd', 'e', 'p', 's'], ['k', 'i', 'n', 'd'],
   ['b', 'i', 'n', 'a', 'r', 'y', '_', 'i', 'd'], ['b', 'i', 'n', 'a', 'r', 'y'], ['t', 'e', 's', 't'],
   ['p', 'l', 'a', 't', 'f', 'o', 'r', 'm'], ['d', 'e', 'f', 'a', 'u', 'l', 't'], ['a', 'l', 'l'], ['n', 'o', 'n', 'e']]

theorem setDefAlts_words (cx : Ctx) (start : Nat) : (setDefAlts cx start).map (·.1.toList) = setDefWords := by
  -- the keywords of the table are literals, that is, `String.ofList` of these words: the two sides unify
  show (setDefWords.map String.ofList).map String.toList = setDefWords
  rw [List.map_map, String.toList_comp_ofList, List.map_id]

/-- `alt` order is right: no keyword can be mistaken for a later one followed by `(` (`binary_id` stands before `binary`);
    and no keyword begins with white space, so that `skipWs` stops in front of it -/
theorem setDefWords_order :
    setDefWords.Pairwise (fun x y => Apart x (y ++ ['('])) ∧ ∀ w ∈ setDefWords, NonWs (w.headD ' ') := by
  decide

theorem mem_setDefWords {cx : Ctx} {start : Nat} {a : String × (St → Option SetDef × St)} (ha : a ∈ setDefAlts cx start) :
    a.1.toList ∈ setDefWords := by
  rw [← setDefAlts_words cx start]; exact List.mem_map_of_mem ha

theorem parseSetDef_keyword (cx : Ctx) (st : St) (R : List Char) {kw : String} {body : St → Option SetDef × St}
    (ha : (kw, body) ∈ setDefAlts cx (pos cx (st.withRest (kw.toList ++ '(' :: R)))) {x : Option SetDef × St}
    (hb : body (st.withRest ('(' :: R)) = x) : parseSetDef cx (st.withRest (kw.toList ++ '(' :: R)) = some x := by
  rw [parseSetDef_eq, withRest_rest, skipWs_append _ _ (setDefWords_order.2 _ (mem_setDefWords ha)), withRest_withRest, ← hb]
  refine findSome?_alt_keyword st R kw body _ ?_ ha
  have := setDefWords_order.1
  rw [← setDefAlts_words cx (pos cx (st.withRest (kw.toList ++ '(' :: R))), List.pairwise_map] at this
  exact this

theorem parseSetDef_none (cx : Ctx) (st : St) (w R : List Char) (hs : NonWs (w.headD ' '))
    (h : ∀ x ∈ setDefWords, Apart x w) : parseSetDef cx (st.withRest (w ++ R)) = none := by
  rw [parseSetDef_eq, withRest_rest, skipWs_append w R hs, withRest_withRest]
  exact List.findSome?_eq_none_iff.mpr fun x hx => alt_none st w R x (h _ (mem_setDefWords hx))

def MatcherRT (cx : Ctx) (MOk : DefaultMatcher → Matcher → Prop) : Prop :=
  ∀ (dm : DefaultMatcher) (m : Matcher) (tail : List Char) (errs : List PErr) (needs : List (Bool × List Char)),
    MOk dm m →
    setMatcher cx dm { rest := printMatcher m ++ ')' :: tail, errs := errs, needs := needs } =
      (some m, { rest := ')' :: tail, errs := errs, needs := needs })

theorem unaryBody_printed (cx : Ctx) (dm : DefaultMatcher) (p : Pred) (m : Matcher) (T : List Char) (st : St)
    (h2 : setMatcher cx dm (st.withRest (printMatcher m ++ ')' :: T)) = (some m, st.withRest (')' :: T))) :
    ∃ sp, unaryBody cx dm p (st.withRest ('(' :: (printMatcher m ++ ')' :: T))) = (some (SetDef.unary p m sp), st.withRest T) := by
  have h1 := expectChar_hit cx '(' .expectedOpenParen st (printMatcher m ++ ')' :: T) (by decide)
  have h3 := recoverComma_close cx st T
  have h4 := expectChar_hit cx ')' .expectedCloseParen st T (by decide)
  exact ⟨_, by simp only [unaryBody, h1, h2, h3, h4, Option.map_some]; rfl⟩

theorem nullaryBody_printed (cx : Ctx) (start : Nat) (mk : Span → SetDef) (T : List Char) (st : St) :
    ∃ sp, nullaryBody cx start mk (st.withRest ('(' :: ')' :: T)) = (some (mk sp), st.withRest T) := by
  have h1 := expectChar_hit cx '(' .expectedOpenParen st (')' :: T) (by decide)
  have h4 := expectChar_hit cx ')' .expectedCloseParen st T (by decide)
  exact ⟨_, by simp [nullaryBody, h1, takeTill, rustTrim, h4]; rfl⟩

def platText : Platform → List Char
  | .host => ['h', 'o', 's', 't']
  | .target => ['t', 'a', 'r', 'g', 'e', 't']

theorem platformBody_printed (cx : Ctx) (pl : Platform) (T : List Char) (st : St) :
    ∃ sp, platformBody cx (st.withRest ('(' :: (platText pl ++ ')' :: T))) = (some (SetDef.platform pl sp), st.withRest T) := by
  have h0 := expectChar_hit cx '(' .expectedOpenParen st (platText pl ++ ')' :: T) (by decide)
  have hs : skipWs (platText pl ++ ')' :: T) = _ := skipWs_append _ _ (by cases pl <;> decide)
  have ht : parseMatcherText cx (st.withRest (platText pl ++ ')' :: T)) = (some (platText pl), st.withRest (')' :: T)) := by
    have := parseMatcherText_printed cx (platText pl) (')' :: T) (by cases pl <;> decide) (.close T) st
    rwa [show printString (platText pl) = platText pl by cases pl <;> decide] at this
  have h3 := recoverComma_close cx st T
  have h4 := expectChar_hit cx ')' .expectedCloseParen st T (by decide)
  simp only [platformBody, h0, withRest_rest, withRest_withRest, hs, ht, h3, h4]
  rw [String.toList_ofList, String.toList_ofList]
  cases pl <;> exact ⟨_, rfl⟩

/-- the printed form of a set definition is keyword, `(`, argument, `)` -/
def kwOf : SetDef → String
  | .unary p _ _ => predName p
  | .platform _ _ => "platform"
  | .default _ => "default"
  | .all => "all"
  | .none => "none"

def argText : SetDef → List Char
  | .unary _ m _ => printMatcher m
  | .platform pl _ => platText pl
  | _ => []

theorem printSet_append (s : SetDef) (T : List Char) : printSet s ++ T = (kwOf s).toList ++ '(' :: (argText s ++ ')' :: T) := by
  cases s with
  | unary p m sp =>
    show (predName p).toList ++ ['('] ++ printMatcher m ++ [')'] ++ T = _
    simp only [kwOf, argText, List.append_assoc, List.cons_append, List.nil_append]
  | platform pl sp =>
    cases pl
    · show "platform(host)".toList ++ T = "platform".toList ++ _
      rw [String.toList_ofList, String.toList_ofList]
      rfl
    · show "platform(target)".toList ++ T = "platform".toList ++ _
      rw [String.toList_ofList, String.toList_ofList]
      rfl
  | default sp =>
    show "default()".toList ++ T = "default".toList ++ _
    rw [String.toList_ofList, String.toList_ofList]
    rfl
  | all =>
    show "all()".toList ++ T = "all".toList ++ _
    rw [String.toList_ofList, String.toList_ofList]
    rfl
  | none =>
    show "none()".toList ++ T = "none".toList ++ _
    rw [String.toList_ofList, String.toList_ofList]
    rfl

theorem unary_mem_setDefAlts (cx : Ctx) (start : Nat) (p : Pred) : (predName p, unaryBody cx (dmOf p) p) ∈ setDefAlts cx start :=
  List.mem_append_left _ (List.mem_map_of_mem (f := fun e => (e.1, unaryBody cx e.2.1 e.2.2)) (mem_unaryTable.mpr ⟨rfl, rfl⟩))

theorem nullary_mem_setDefAlts (cx : Ctx) (start : Nat) :
    ("platform", platformBody cx) ∈ setDefAlts cx start ∧ ("default", nullaryBody cx start fun s => .default s) ∈ setDefAlts cx start ∧
    ("all", nullaryBody cx start fun _ => .all) ∈ setDefAlts cx start ∧ ("none", nullaryBody cx start fun _ => .none) ∈ setDefAlts cx start := by
  simp only [setDefAlts, List.mem_append, List.mem_cons, true_or, or_true, and_self]

theorem parseSetDef_printed (cx : Ctx) (MOk : DefaultMatcher → Matcher → Prop) (hm : MatcherRT cx MOk)
    (s : SetDef) (T : List Char) (st : St) (hok : SetOk MOk s) :
    ∃ s', parseSetDef cx (st.withRest (printSet s ++ T)) = some (some s', st.withRest T) ∧ SetDef.dropSpan s' = SetDef.dropSpan s := by
  rw [printSet_append]
  cases s with
  | unary p m sp =>
    obtain ⟨sp', h⟩ := unaryBody_printed cx (dmOf p) p m T st (hm (dmOf p) m T st.errs st.needs hok)
    exact ⟨.unary p m sp', parseSetDef_keyword cx st _ (unary_mem_setDefAlts cx _ p) h, rfl⟩
  | platform pl sp =>
    obtain ⟨sp', h⟩ := platformBody_printed cx pl T st
    exact ⟨.platform pl sp', parseSetDef_keyword cx st _ (nullary_mem_setDefAlts cx _).1 h, rfl⟩
  | default sp =>
    obtain ⟨sp', h⟩ := nullaryBody_printed cx (pos cx (st.withRest ("default".toList ++ '(' :: ')' :: T))) (fun s => .default s) T st
    exact ⟨.default sp', parseSetDef_keyword cx st _ (nullary_mem_setDefAlts cx _).2.1 h, rfl⟩
  | all =>
    obtain ⟨sp', h⟩ := nullaryBody_printed cx (pos cx (st.withRest ("all".toList ++ '(' :: ')' :: T))) (fun _ => .all) T st
    exact ⟨.all, parseSetDef_keyword cx st _ (nullary_mem_setDefAlts cx _).2.2.1 h, rfl⟩
  | none =>
    obtain ⟨sp', h⟩ := nullaryBody_printed cx (pos cx (st.withRest ("none".toList ++ '(' :: ')' :: T))) (fun _ => .none) T st
    exact ⟨.none, parseSetDef_keyword cx st _ (nullary_mem_setDefAlts cx _).2.2.2 h, rfl⟩

def NoAndOp (T : List Char) : Prop := ∀ (cx : Ctx) (st : St), parseAndOp cx (st.withRest T) = none
def NoOrOp (T : List Char) : Prop := ∀ (cx : Ctx) (st : St), parseOrOp cx (st.withRest T) = none

theorem noOp_nil : NoAndOp [] ∧ NoOrOp [] := by
  constructor <;> intro cx st
  · simp [parseAndOp, skipWs, lit_eq, opKeywords]
  · simp [parseOrOp, skipWs, lit_eq, opKeywords]

theorem noOp_close (t : List Char) : NoAndOp (')' :: t) ∧ NoOrOp (')' :: t) := by
  constructor <;> intro cx st
  · simp [parseAndOp, skipWs_cons_nonws, NonWs, lit_eq, opKeywords]
  · simp [parseOrOp, skipWs_cons_nonws, NonWs, lit_eq, opKeywords]

theorem noAndOp_or (op : OrOp) (t : List Char) : NoAndOp (' ' :: ((printOr op).toList ++ ' ' :: t)) := by
  intro cx st
  cases op <;> rw [printOr, String.toList_ofList] <;>
    simp [parseAndOp, skipWs_space, skipWs_cons_nonws, NonWs, lit_eq, opKeywords]

def andText : AndDiffOp → List Char
  | .and op => (printAnd op).toList
  | .diff => ['-']

/-- `R'`, what is left, is the blank-prefixed (or bare) right operand -/
theorem parseAndOp_printed (cx : Ctx) (op : AndDiffOp) (R : List Char) (st : St) :
    ∃ R', parseAndOp cx (st.withRest (' ' :: (andText op ++ ' ' :: R))) = some (some op, st.withRest R') ∧ skipWs R' = skipWs R := by
  rcases op with (_ | _) | _
  · refine ⟨R, ?_, rfl⟩
    rw [andText, printAnd, String.toList_ofList]
    simp [parseAndOp, skipWs_space, skipWs_cons_nonws, NonWs, lit_eq, opKeywords]
  · refine ⟨' ' :: R, ?_, skipWs_space R⟩
    rw [andText, printAnd, String.toList_ofList]
    simp [parseAndOp, skipWs_space, skipWs_cons_nonws, NonWs, lit_eq, opKeywords]
  · refine ⟨' ' :: R, ?_, skipWs_space R⟩
    simp [parseAndOp, andText, skipWs_space, skipWs_cons_nonws, NonWs, lit_eq, opKeywords]

theorem parseOrOp_printed (cx : Ctx) (op : OrOp) (R : List Char) (st : St) :
    ∃ R', parseOrOp cx (st.withRest (' ' :: ((printOr op).toList ++ ' ' :: R))) = some (some op, st.withRest R') ∧ skipWs R' = skipWs R := by
  cases op <;> rw [printOr, String.toList_ofList]
  · exact ⟨R, by simp [parseOrOp, skipWs_space, skipWs_cons_nonws, NonWs, lit_eq, opKeywords], rfl⟩
  · exact ⟨' ' :: R, by simp [parseOrOp, skipWs_space, skipWs_cons_nonws, NonWs, lit_eq, opKeywords], skipWs_space R⟩
  · exact ⟨' ' :: R, by simp [parseOrOp, skipWs_space, skipWs_cons_nonws, NonWs, lit_eq, opKeywords], skipWs_space R⟩

/-- the and-level node made by `combineAnd` -/
def mkAnd : AndDiffOp → PExpr → PExpr → PExpr
  | .and op, a, b => .inter op a b
  | .diff, a, b => .diff a b

theorem printExpr_not (op : NotOp) (e : PExpr) : printExpr (.not op e) = (printNot op).toList ++ ' ' :: printExpr e := by
  show (printNot op).toList ++ [' '] ++ printExpr e = _
  simp only [List.append_assoc, List.cons_append, List.nil_append]

theorem printExpr_union (op : OrOp) (a b : PExpr) :
    printExpr (.union op a b) = printExpr a ++ ' ' :: ((printOr op).toList ++ ' ' :: printExpr b) := by
  show printExpr a ++ [' '] ++ (printOr op).toList ++ [' '] ++ printExpr b = _
  simp only [List.append_assoc, List.cons_append, List.nil_append]

theorem printExpr_mkAnd (op : AndDiffOp) (a b : PExpr) :
    printExpr (mkAnd op a b) = printExpr a ++ ' ' :: (andText op ++ ' ' :: printExpr b) := by
  cases op with
  | and op =>
    show printExpr a ++ [' '] ++ (printAnd op).toList ++ [' '] ++ printExpr b = _
    simp only [andText, List.append_assoc, List.cons_append, List.nil_append]
  | diff =>
    show printExpr a ++ " - ".toList ++ printExpr b = _
    rw [String.toList_ofList]
    simp only [andText, List.append_assoc, List.cons_append, List.nil_append]

theorem printExpr_inter (op : AndOp) (a b : PExpr) :
    printExpr (.inter op a b) = printExpr a ++ ' ' :: (andText (.and op) ++ ' ' :: printExpr b) := printExpr_mkAnd (.and op) a b

theorem printExpr_diff (a b : PExpr) : printExpr (.diff a b) = printExpr a ++ ' ' :: (andText .diff ++ ' ' :: printExpr b) :=
  printExpr_mkAnd .diff a b

theorem printExpr_parens (e : PExpr) : printExpr (.parens e) = '(' :: (printExpr e ++ [')']) := rfl

theorem printExpr_head (e : PExpr) : NonWs ((printExpr e).headD ' ') := by
  induction e with
  | not op e _ =>
    rw [printExpr_not]
    cases op <;> rw [printNot, String.toList_ofList]
    · exact (by decide : NonWs 'n')
    · exact (by decide : NonWs '!')
  | union op a b iha _ =>
    rw [printExpr_union, headD_append _ _ iha]
    exact iha
  | inter op a b iha _ =>
    rw [printExpr_inter, headD_append _ _ iha]
    exact iha
  | diff a b iha _ =>
    rw [printExpr_diff, headD_append _ _ iha]
    exact iha
  | parens e _ => exact (by decide : NonWs '(')
  | set s =>
    have h : NonWs ((kwOf s).toList.headD ' ') := by
      cases s with
      | unary p m sp =>
        cases p <;> rw [kwOf, predName, String.toList_ofList] <;> decide
      | _ =>
        rw [kwOf, String.toList_ofList]
        decide
    show NonWs ((printSet s).headD ' ')
    rw [← List.append_nil (printSet s), printSet_append, headD_append _ _ h]
    exact h

theorem skipWs_printExpr (e : PExpr) (T : List Char) : skipWs (printExpr e ++ T) = printExpr e ++ T :=
  skipWs_append _ _ (printExpr_head e)

def sz : PExpr → Nat
  | .not _ e => sz e + 1
  | .union _ a b => sz a + sz b + 1
  | .inter _ a b => sz a + sz b + 1
  | .diff a b => sz a + sz b + 1
  | .parens e => sz e + 1
  | .set _ => 1

/-- operators on the left spine at the and-level / or-level -/
def nand : PExpr → Nat
  | .inter _ a _ => nand a + 1
  | .diff a _ => nand a + 1
  | _ => 0
def nor : PExpr → Nat
  | .union _ a _ => nor a + 1
  | _ => 0

theorem sz_pos (e : PExpr) : 1 ≤ sz e := by cases e <;> simp [sz]

theorem nand_lt (e : PExpr) : nand e < sz e := by
  induction e with
  | inter op a b iha _ => simp only [nand, sz]; omega
  | diff a b iha _ => simp only [nand, sz]; omega
  | _ => simp [nand, sz]

theorem nor_lt (e : PExpr) : nor e < sz e := by
  induction e with
  | union op a b iha _ => simp only [nor, sz]; omega
  | _ => simp [nor, sz]

theorem sz_mkAnd (op : AndDiffOp) (a b : PExpr) : sz (mkAnd op a b) = sz a + sz b + 1 := by cases op <;> rfl
theorem nand_mkAnd (op : AndDiffOp) (a b : PExpr) : nand (mkAnd op a b) = nand a + 1 := by cases op <;> rfl
theorem dropSpans_mkAnd (op : AndDiffOp) (a b : PExpr) : dropSpans (mkAnd op a b) = mkAnd op (dropSpans a) (dropSpans b) := by
  cases op <;> rfl
theorem combineAnd_some (op : AndDiffOp) (a b : PExpr) : combineAnd (some a) (some op) (some b) = some (mkAnd op a b) := by
  cases op <;> rfl

/-- the shape of the parser's output (level 0 = basic, 1 = and-level, 2 = or-level), with well-formed matchers -/
def wf (MOk : DefaultMatcher → Matcher → Prop) : Nat → PExpr → Prop
  | _, .set s => SetOk MOk s
  | _, .not _ e => wf MOk 0 e
  | _, .parens e => wf MOk 2 e
  | l, .inter _ a b => 1 ≤ l ∧ wf MOk 1 a ∧ wf MOk 0 b
  | l, .diff a b => 1 ≤ l ∧ wf MOk 1 a ∧ wf MOk 0 b
  | l, .union _ a b => 2 ≤ l ∧ wf MOk 2 a ∧ wf MOk 1 b

theorem wf_mono (MOk : DefaultMatcher → Matcher → Prop) (l l' : Nat) (hl : l ≤ l') : ∀ e, wf MOk l e → wf MOk l' e := by
  intro e h
  cases e with
  | inter op a b => exact ⟨Nat.le_trans h.1 hl, h.2⟩
  | diff a b => exact ⟨Nat.le_trans h.1 hl, h.2⟩
  | union op a b => exact ⟨Nat.le_trans h.1 hl, h.2⟩
  | _ => exact h

theorem parseBasic_set (cx : Ctx) (f : Nat) (st : St) (r : List Char) (x : Option SetDef × St)
    (h : parseSetDef cx (st.withRest (skipWs r)) = some x) :
    parseBasic cx (f + 1) (st.withRest r) = some (x.1.map PExpr.set, x.2) := by
  rw [parseBasic, withRest_rest, withRest_withRest, h]

/-- `not␣` is consumed with its blank, `!` without: either way the operand is read from a text that is, blanks aside, the rest -/
theorem parseBasic_not (cx : Ctx) (f : Nat) (st : St) (r R : List Char) (op : NotOp) (hr : skipWs r = (printNot op).toList ++ ' ' :: R) :
    ∃ R', skipWs R' = skipWs R ∧ parseBasic cx (f + 1) (st.withRest r) =
      some ((basicOrMissing cx f (st.withRest R')).1.map (PExpr.not op), (basicOrMissing cx f (st.withRest R')).2) := by
  cases op <;> rw [printNot, String.toList_ofList] at hr
  · have hn : parseSetDef cx (st.withRest (['n', 'o', 't'] ++ ' ' :: R)) = none :=
      parseSetDef_none cx st ['n', 'o', 't', ' '] R (by decide) (by decide)
    refine ⟨R, rfl, ?_⟩
    rw [parseBasic, withRest_rest, withRest_withRest, hr, hn]
    simp [lit_eq, opKeywords]
  · have hn : parseSetDef cx (st.withRest (['!'] ++ ' ' :: R)) = none :=
      parseSetDef_none cx st ['!'] (' ' :: R) (by decide) (by decide)
    refine ⟨' ' :: R, skipWs_space R, ?_⟩
    rw [parseBasic, withRest_rest, withRest_withRest, hr, hn]
    simp [lit_eq, opKeywords]

theorem parseBasic_paren (cx : Ctx) (f : Nat) (st : St) (r R : List Char) (hr : skipWs r = '(' :: R) :
    parseBasic cx (f + 1) (st.withRest r) =
      some ((parseExpr cx f (st.withRest R)).1.map PExpr.parens,
        expectChar cx ')' .expectedCloseParen (parseExpr cx f (st.withRest R)).2) := by
  have hn : parseSetDef cx (st.withRest ('(' :: R)) = none := parseSetDef_none cx st ['('] R (by decide) (by decide)
  rw [parseBasic, withRest_rest, withRest_withRest, hr, hn]
  simp [lit_eq, opKeywords]

section levels
variable (cx : Ctx) (MOk : DefaultMatcher → Matcher → Prop)

/-! Fuel.  One level of nesting costs four units: `parseExpr` calls `parseAndOr` calls `basicOrMissing` calls `parseBasic`, which
    on a parenthesis calls `parseExpr` again; and every turn of a loop costs one.  So `4 * sz e` suffices; the `+ 3`, `+ 1`, `+ 0` of
    `PB`, `PA`, `PE` are the places of `parseBasic`, `parseAndOr`, `parseExpr` in that chain of calls. -/

/-- `parse_basic_expr` on the printed form of a basic expression -/
def PB (e : PExpr) : Prop := ∀ (f : Nat) (r T : List Char) (st : St), skipWs r = printExpr e ++ T → 4 * sz e ≤ f + 3 →
  ∃ e', parseBasic cx f (st.withRest r) = some (some e', st.withRest T) ∧ dropSpans e' = dropSpans e

/-- `parse_and_or_difference_expr` on the printed form of an and-level expression: after the printed text the loop is in the
    state "accumulated = the expression, fuel reduced by one per operator" -/
def PA (e : PExpr) : Prop := ∀ (F : Nat) (r T : List Char) (st : St), skipWs r = printExpr e ++ T → 4 * sz e ≤ F + 1 →
  ∃ e', dropSpans e' = dropSpans e ∧ parseAndOr cx F (st.withRest r) = andLoop cx (F - 1 - nand e) (some e') (st.withRest T)

/-- `parse_expr` on the printed form of an or-level expression -/
def PE (e : PExpr) : Prop := ∀ (F : Nat) (r T : List Char) (st : St), skipWs r = printExpr e ++ T → NoAndOp T → 4 * sz e ≤ F →
  ∃ e', dropSpans e' = dropSpans e ∧ parseExpr cx F (st.withRest r) = orLoop cx (F - 1 - nor e) (some e') (st.withRest T)

/-- `PA`, `PE` with the fuel written as a sum (`G` is what the loop is left with): no step below then meets a truncated
    subtraction, over which `omega` would split cases at every use -/
def PA' (e : PExpr) : Prop := ∀ (G : Nat) (r T : List Char) (st : St), skipWs r = printExpr e ++ T → 4 * sz e ≤ G + nand e + 2 →
  ∃ e', dropSpans e' = dropSpans e ∧ parseAndOr cx (G + nand e + 1) (st.withRest r) = andLoop cx G (some e') (st.withRest T)
def PE' (e : PExpr) : Prop := ∀ (G : Nat) (r T : List Char) (st : St), skipWs r = printExpr e ++ T → NoAndOp T →
  4 * sz e ≤ G + nor e + 1 →
  ∃ e', dropSpans e' = dropSpans e ∧ parseExpr cx (G + nor e + 1) (st.withRest r) = orLoop cx G (some e') (st.withRest T)

theorem pa_of_pa' (e : PExpr) (h : PA' cx e) : PA cx e := by
  intro F r T st hr hf
  obtain ⟨G, rfl⟩ := Nat.exists_eq_add_of_le' (show nand e + 1 ≤ F by have := nand_lt e; omega)
  simpa only [← Nat.add_assoc, Nat.add_sub_cancel] using h G r T st hr (by omega)

theorem pe_of_pe' (e : PExpr) (h : PE' cx e) : PE cx e := by
  intro F r T st hr hT hf
  obtain ⟨G, rfl⟩ := Nat.exists_eq_add_of_le' (show nor e + 1 ≤ F by have := nor_lt e; omega)
  simpa only [← Nat.add_assoc, Nat.add_sub_cancel] using h G r T st hr hT (by omega)

theorem basicOrMissing_of_pb (e : PExpr) (h : PB cx e) (g : Nat) (r T : List Char) (st : St) (hr : skipWs r = printExpr e ++ T)
    (hf : 4 * sz e ≤ g + 2) : ∃ e', basicOrMissing cx g (st.withRest r) = (some e', st.withRest T) ∧ dropSpans e' = dropSpans e := by
  obtain ⟨g, rfl⟩ := Nat.exists_eq_add_of_le' (show 1 ≤ g by have := sz_pos e; omega)
  obtain ⟨e', h1, h2⟩ := h g r T st hr hf
  exact ⟨e', by simp only [basicOrMissing, h1], h2⟩

/-- after an and-level operand that nothing and-like follows, the loop stops -/
theorem parseAndOr_of_pa' (e : PExpr) (h : PA' cx e) (F : Nat) (r T : List Char) (st : St) (hr : skipWs r = printExpr e ++ T)
    (hT : NoAndOp T) (hf : 4 * sz e ≤ F + 1) :
    ∃ e', dropSpans e' = dropSpans e ∧ parseAndOr cx F (st.withRest r) = (some e', st.withRest T) := by
  obtain ⟨k, rfl⟩ : ∃ k, F = k + 1 + nand e + 1 := ⟨F - (nand e + 2), by have := nand_lt e; omega⟩
  obtain ⟨e', h2, h1⟩ := h (k + 1) r T st hr (by omega)
  exact ⟨e', h2, by rw [h1, andLoop, hT cx st]⟩

theorem parseExpr_of_pe' (e : PExpr) (h : PE' cx e) (F : Nat) (r T : List Char) (st : St) (hr : skipWs r = printExpr e ++ T)
    (hT : NoAndOp T ∧ NoOrOp T) (hf : 4 * sz e ≤ F) :
    ∃ e', dropSpans e' = dropSpans e ∧ parseExpr cx F (st.withRest r) = (some e', st.withRest T) := by
  obtain ⟨k, rfl⟩ : ∃ k, F = k + 1 + nor e + 1 := ⟨F - (nor e + 2), by have := nor_lt e; omega⟩
  obtain ⟨e', h2, h1⟩ := h (k + 1) r T st hr hT.1 (by omega)
  exact ⟨e', h2, by rw [h1, orLoop, hT.2 cx st]⟩

theorem pa'_of_pb (e : PExpr) (hn : nand e = 0) (h : PB cx e) : PA' cx e := by
  intro G r T st hr hf
  rw [hn] at hf ⊢
  obtain ⟨e', h1, h2⟩ := basicOrMissing_of_pb cx e h G r T st hr hf
  exact ⟨e', h2, by simp only [parseAndOr, h1]⟩

theorem pe'_of_pa' (e : PExpr) (hn : nor e = 0) (h : PA' cx e) : PE' cx e := by
  intro G r T st hr hT hf
  rw [hn] at hf ⊢
  obtain ⟨e', h2, h1⟩ := parseAndOr_of_pa' cx e h G r T st hr hT hf
  exact ⟨e', h2, by simp only [parseExpr, h1]⟩

/-- the three conjuncts of `levels'` at a node that is basic, and below at an and-level node (where `wf MOk l` unfolds to `1 ≤ l ∧ W`):
    what holds at one level holds at the levels above it -/
theorem levels_of_pb (e : PExpr) (hn : nand e = 0) (ho : nor e = 0) {W : Prop} (h : W → PB cx e) :
    (W → PB cx e) ∧ (W → PA' cx e) ∧ (W → PE' cx e) :=
  ⟨h, fun w => pa'_of_pb cx e hn (h w), fun w => pe'_of_pa' cx e ho (pa'_of_pb cx e hn (h w))⟩

theorem levels_of_pa' (e : PExpr) (ho : nor e = 0) {W : Prop} (h : W → PA' cx e) :
    (1 ≤ 0 ∧ W → PB cx e) ∧ (1 ≤ 1 ∧ W → PA' cx e) ∧ (1 ≤ 2 ∧ W → PE' cx e) :=
  ⟨fun hw => absurd hw.1 (by decide), fun hw => h hw.2, fun hw => pe'_of_pa' cx e ho (h hw.2)⟩

theorem pb_not (op : NotOp) (e : PExpr) (h : PB cx e) : PB cx (.not op e) := by
  intro f r T st hr hf
  simp only [sz] at hf
  obtain ⟨f, rfl⟩ := Nat.exists_eq_add_of_le' (show 1 ≤ f by omega)
  rw [printExpr_not, List.append_assoc, List.cons_append] at hr
  obtain ⟨R', hR', hp⟩ := parseBasic_not cx f st r _ op hr
  obtain ⟨e', h1, h2⟩ := basicOrMissing_of_pb cx e h f R' T st (by rw [hR', skipWs_printExpr]) (by omega)
  exact ⟨.not op e', by rw [hp, h1]; rfl, by simp only [dropSpans, h2]⟩

theorem pb_parens (e : PExpr) (h : PE' cx e) : PB cx (.parens e) := by
  intro f r T st hr hf
  simp only [sz] at hf
  obtain ⟨f, rfl⟩ := Nat.exists_eq_add_of_le' (show 1 ≤ f by omega)
  rw [printExpr_parens, List.cons_append, List.append_assoc, List.singleton_append] at hr
  obtain ⟨e', h2, h1⟩ := parseExpr_of_pe' cx e h f _ (')' :: T) st (skipWs_printExpr e _) (noOp_close T) (by omega)
  exact ⟨.parens e', by rw [parseBasic_paren cx _ st r _ hr, h1, expectChar_hit cx ')' _ st T (by decide)]; rfl,
    by simp only [dropSpans, h2]⟩

/-- one more and/difference operator on the left spine: one more turn of the loop -/
theorem pa'_mkAnd (op : AndDiffOp) (a b : PExpr) (ha : PA' cx a) (hb : PB cx b) : PA' cx (mkAnd op a b) := by
  intro G r T st hr hf
  rw [sz_mkAnd, nand_mkAnd] at hf
  rw [printExpr_mkAnd, List.append_assoc, List.cons_append, List.append_assoc, List.cons_append] at hr
  obtain ⟨a', ha2, ha1⟩ := ha (G + 1) r _ st hr (by omega)
  obtain ⟨R', hop, hR'⟩ := parseAndOp_printed cx op (printExpr b ++ T) st
  obtain ⟨b', hb1, hb2⟩ := basicOrMissing_of_pb cx b hb G R' T st (by rw [hR', skipWs_printExpr]) (by have := nand_lt a; omega)
  refine ⟨mkAnd op a' b', by rw [dropSpans_mkAnd, dropSpans_mkAnd, ha2, hb2], ?_⟩
  rw [nand_mkAnd, Nat.add_right_comm _ (nand a + 1), ← Nat.add_assoc, ha1]
  simp only [andLoop, hop, hb1, combineAnd_some]

theorem pe'_union (op : OrOp) (a b : PExpr) (ha : PE' cx a) (hb : PA' cx b) : PE' cx (.union op a b) := by
  intro G r T st hr hT hf
  simp only [sz, nor] at hf ⊢
  rw [printExpr_union, List.append_assoc, List.cons_append, List.append_assoc, List.cons_append] at hr
  obtain ⟨a', ha2, ha1⟩ := ha (G + 1) r _ st hr (noAndOp_or op _) (by omega)
  obtain ⟨R', hop, hR'⟩ := parseOrOp_printed cx op (printExpr b ++ T) st
  obtain ⟨b', hb2, hb1⟩ := parseAndOr_of_pa' cx b hb G R' T st (by rw [hR', skipWs_printExpr]) hT (by have := nor_lt a; omega)
  refine ⟨.union op a' b', by simp only [dropSpans, ha2, hb2], ?_⟩
  rw [Nat.add_right_comm _ (nor a + 1), ← Nat.add_assoc, ha1]
  simp only [orLoop, hop, hb1, combineOr]

variable (hm : MatcherRT cx MOk)
include hm

theorem pb_set (s : SetDef) (hw : SetOk MOk s) : PB cx (.set s) := by
  intro f r T st hr hf
  obtain ⟨f, rfl⟩ := Nat.exists_eq_add_of_le' (show 1 ≤ f by simp only [sz] at hf; omega)
  obtain ⟨s', h1, h2⟩ := parseSetDef_printed cx MOk hm s T st hw
  exact ⟨.set s', by rw [parseBasic_set cx f st r _ (by rw [hr]; exact h1)]; rfl, by simp only [dropSpans, h2]⟩

theorem levels' : ∀ e : PExpr, (wf MOk 0 e → PB cx e) ∧ (wf MOk 1 e → PA' cx e) ∧ (wf MOk 2 e → PE' cx e) := by
  intro e
  induction e with
  | set s => exact levels_of_pb cx _ rfl rfl (pb_set cx MOk hm s)
  | not op e ih => exact levels_of_pb cx _ rfl rfl fun hw => pb_not cx op e (ih.1 hw)
  | parens e ih => exact levels_of_pb cx _ rfl rfl fun hw => pb_parens cx e (ih.2.2 hw)
  | inter op a b iha ihb => exact levels_of_pa' cx _ rfl fun hw => pa'_mkAnd cx (.and op) a b (iha.2.1 hw.1) (ihb.1 hw.2)
  | diff a b iha ihb => exact levels_of_pa' cx _ rfl fun hw => pa'_mkAnd cx .diff a b (iha.2.1 hw.1) (ihb.1 hw.2)
  | union op a b iha ihb =>
    exact ⟨fun hw => absurd hw.1 (by omega), fun hw => absurd hw.1 (by omega),
      fun hw => pe'_union cx op a b (iha.2.2 hw.2.1) (ihb.2.1 hw.2.2)⟩

/-- `levels'` with the loop's fuel written as a difference (`PA`, `PE`); the proofs above and `parseTop_printed` use `levels'` -/
theorem levels : ∀ e : PExpr, (wf MOk 0 e → PB cx e) ∧ (wf MOk 1 e → PA cx e) ∧ (wf MOk 2 e → PE cx e) := fun e =>
  have h := levels' cx MOk hm e
  ⟨h.1, fun hw => pa_of_pa' cx e (h.2.1 hw), fun hw => pe_of_pe' cx e (h.2.2 hw)⟩

end levels

theorem sz_le_length (e : PExpr) : sz e ≤ (printExpr e).length := by
  induction e with
  | set s => exact List.length_pos_iff.mpr fun h => (printExpr_head (.set s)).1 (by rw [h]; rfl)
  | _ =>
    -- every operator prints its operands and at least one more character
    simp only [sz, printExpr_not, printExpr_union, printExpr_inter, printExpr_diff, printExpr_parens, List.length_append,
      List.length_cons, List.length_nil]
    omega

theorem parseTop_printed (cx : Ctx) (MOk : DefaultMatcher → Matcher → Prop) (e : PExpr) (hm : MatcherRT cx MOk) (hw : wf MOk 2 e) :
    ∃ e', parseTop cx (printExpr e) = (some e', { rest := [], errs := [], needs := [] }) ∧ dropSpans e' = dropSpans e := by
  obtain ⟨e', h2, h1⟩ := parseExpr_of_pe' cx e ((levels' cx MOk hm e).2.2 hw) (fuelFor (printExpr e)) (printExpr e) []
    { rest := printExpr e, errs := [], needs := [] } (by simpa using skipWs_printExpr e []) noOp_nil
    (by have := sz_le_length e; simp only [fuelFor]; omega)
  simp only [St.withRest] at h1
  -- `unfold`, not `simp only [parseTop]`: the equation lemma that simp makes for `parseTop` is proved by running the parser on
  -- the concrete fuel (seconds)
  exact ⟨e', by unfold parseTop; simp only [h1]; rfl, h2⟩

end NextestModel.ExprRT
