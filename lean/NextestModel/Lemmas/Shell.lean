/-
  Helper lemmas for `split (join ws) = some ws` (C15 `shell_roundtrip`): what `split`'s machine does on the characters
  `quote` emits, one word read back (`go_quote`), then the words of `join` one after the other (`go_words`).
-/
import NextestModel.Model.Shell
namespace NextestModel.Shell

/-- the characters that the `delim` and `unquoted` arms of `splitGo` test for are all special -/
theorem not_special {c : Char} (h : isSpecial c = false) :
    c ≠ '\n' ∧ c ≠ '\'' ∧ c ≠ '"' ∧ c ≠ '\\' ∧ c ≠ ' ' ∧ c ≠ '\t' ∧ c ≠ '#' := by
  refine ⟨?_, ?_, ?_, ?_, ?_, ?_, ?_⟩ <;> (rintro rfl; exact absurd h (by decide))

theorem go_unquoted_plain (w rest u : List Char) (ws : List (List Char))
    (h : ∀ c ∈ w, isSpecial c = false) :
    splitGo .unquoted (w ++ rest) u ws = splitGo .unquoted rest (u ++ w) ws := by
  induction w generalizing u with
  | nil => simp
  | cons c cs ih =>
    have hc := not_special (h c (by simp))
    simp only [List.cons_append, splitGo, hc, false_or, ite_false]
    rw [ih _ (fun d hd => h d (by simp [hd]))]
    simp

theorem go_delim_plain (w rest : List Char) (ws : List (List Char)) (hne : w ≠ [])
    (h : ∀ c ∈ w, isSpecial c = false) :
    splitGo .delim (w ++ rest) [] ws = splitGo .unquoted rest w ws := by
  cases w with
  | nil => exact absurd rfl hne
  | cons c cs =>
    have hc := not_special (h c (by simp))
    simp only [List.cons_append, splitGo, hc, false_or, ite_false]
    rw [go_unquoted_plain cs rest _ ws (fun d hd => h d (by simp [hd]))]
    simp

/-- `'\''` closes the quote, gives a backslash-escaped `'`, and opens the quote again -/
theorem go_single_mixed (w rest u : List Char) (ws : List (List Char)) :
    splitGo .single (escMixed w ++ rest) u ws = splitGo .single rest (u ++ w) ws := by
  induction w generalizing u with
  | nil => simp [escMixed]
  | cons c cs ih =>
    by_cases hc : c = '\''
    · subst hc
      have step : splitGo .single ('\'' :: '\\' :: '\'' :: '\'' :: (escMixed cs ++ rest)) u ws =
          splitGo .single (escMixed cs ++ rest) (u ++ ['\'']) ws := rfl
      simpa [escMixed, ih] using step
    · simp only [escMixed, hc, ite_false, List.cons_append, List.nil_append, splitGo]
      rw [ih]; simp

theorem escMixed_of_no_quote {w : List Char} (h : ∀ c ∈ w, c ≠ '\'') : escMixed w = w := by
  induction w with
  | nil => rfl
  | cons c cs ih => simp [escMixed, h c (by simp), ih fun d hd => h d (by simp [hd])]

theorem escapeStyle_cases (s : List Char) :
    (escapeStyle s = .none ∧ s ≠ [] ∧ ∀ c ∈ s, isSpecial c = false) ∨
    (escapeStyle s = .singleQuoted ∧ ∀ c ∈ s, c ≠ '\'') ∨ escapeStyle s = .mixed := by
  unfold escapeStyle
  split
  · rename_i he
    exact .inr (.inl ⟨rfl, by simp [List.isEmpty_iff.mp he]⟩)
  · rename_i hne
    split
    · rename_i hs
      exact .inl ⟨rfl, by simpa using hne, by simpa using hs⟩
    · split
      · rename_i hq
        simp only [Bool.and_eq_true, Bool.not_eq_true', List.any_eq_false] at hq
        exact .inr (.inl ⟨rfl, by simpa using hq.2⟩)
      · exact .inr (.inr rfl)

theorem go_quote (w rest : List Char) (ws : List (List Char)) :
    splitGo .delim (quote w ++ rest) [] ws = splitGo .unquoted rest w ws := by
  -- the two quoted styles as one: `singleQuoted` is `mixed` on a word without `'` (`escMixed_of_no_quote`)
  have quoted : splitGo .delim ('\'' :: (escMixed w ++ ['\'']) ++ rest) [] ws = splitGo .unquoted rest w ws := by
    simp only [List.cons_append, splitGo, if_true, List.append_assoc]
    rw [go_single_mixed w _ [] ws]
    simp [splitGo]
  unfold quote
  rcases escapeStyle_cases w with ⟨hs, hne, hp⟩ | ⟨hs, hq⟩ | hs <;> rw [hs]
  · exact go_delim_plain w rest ws hne hp
  · simpa only [escMixed_of_no_quote hq] using quoted
  · exact quoted

/-- `join` without the trailing-blank trick: every word but the last is followed by a blank -/
theorem join_concat (init : List (List Char)) (w : List Char) :
    join (init ++ [w]) = init.flatMap (fun w => quote w ++ [' ']) ++ quote w := by
  simp only [join, List.append_assoc, ← List.flatMap_eq_foldl]
  rw [List.flatMap_append, List.flatMap_singleton, ← List.append_assoc, List.dropLast_concat]

theorem go_words (init : List (List Char)) (rest : List Char) (acc : List (List Char)) :
    splitGo .delim (init.flatMap (fun w => quote w ++ [' ']) ++ rest) [] acc = splitGo .delim rest [] (acc ++ init) := by
  induction init generalizing acc with
  | nil => simp
  | cons w init ih =>
    have blank (cs : List Char) : splitGo .unquoted (' ' :: cs) w acc = splitGo .delim cs [] (acc ++ [w]) := rfl
    rw [List.flatMap_cons, List.append_assoc, List.append_assoc, go_quote, List.singleton_append, blank, ih]
    simp

end NextestModel.Shell
