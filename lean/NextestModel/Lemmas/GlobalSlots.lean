/-
  Global slots (C14): the allocator invariant of Lemmas/Slots lifted to the scheduler model — the global slots of the running
  futures are distinct and below the thread count in every reachable state.  `SchedInv` is a flat record; `schedInv_iff` reads
  it as invariants proved on their own (Lemmas/Sched) plus what is particular to slots, and `.start` / `.move` / `.remove` go
  through that reading.
-/
import NextestModel.Lemmas.Slots
import NextestModel.Lemmas.Sched
namespace NextestModel.C14
open NextestModel.Sched

/-- the slots held by the futures alive right now -/
def held (s : SState) : List Nat := s.running.map (·.globalSlot)

/-- the scheduler-level invariant: the allocator's invariant against the running futures' slots, the weight accounting, and
    every held slot below the thread count -/
structure SchedInv (s : SState) : Prop where
  slots : SlotsInv (held s) s.slots
  acct : s.cur = (s.running.map fun r => min r.item.weight s.maxW).sum
  posRunning : ∀ r ∈ s.running, 1 ≤ r.item.weight
  posPending : ∀ it ∈ s.pending, 1 ≤ it.weight
  posQueued : ∀ g, ∀ it ∈ s.queues.getD g [], 1 ≤ it.weight
  below : ∀ r ∈ s.running, r.globalSlot < s.maxW
  maxPos : 1 ≤ s.maxW
  curLe : s.cur ≤ s.maxW

theorem schedInv_iff (s : SState) :
    SchedInv s ↔ C08.GlobalOk s ∧ C08.AllItems (1 ≤ ·.weight) s ∧ SlotsInv (held s) s.slots ∧
    (∀ r ∈ s.running, r.globalSlot < s.maxW) ∧ 1 ≤ s.maxW :=
  ⟨fun h => ⟨⟨h.acct, h.curLe⟩, ⟨h.posPending, h.posQueued, h.posRunning⟩, h.slots, h.below, h.maxPos⟩,
   fun ⟨ok, pos, slots, below, maxPos⟩ =>
    { slots, below, maxPos, acct := ok.1, curLe := ok.2, posRunning := pos.running, posPending := pos.pending,
      posQueued := pos.queued }⟩

theorem SchedInv.start {s : SState} (it : Item) (h : SchedInv s) (hw : 1 ≤ it.weight)
    (hs : hasSpace s.cur s.maxW it.weight = true) : SchedInv (s.start it).1 := by
  obtain ⟨hok, hpos, hslots, hbelow, hmax⟩ := (schedInv_iff s).mp h
  refine (schedInv_iff _).mpr ⟨hok.start it hs, hpos.start hw, ?slots, ?below, by rwa [start_maxW]⟩
  case slots => simpa [held] using hslots.reserve.2.2
  case below =>
    rw [start_maxW, start_running, List.forall_mem_append, List.forall_mem_singleton, start_globalSlot]
    refine ⟨hbelow, Nat.lt_of_le_of_lt hslots.reserve_le ?_⟩
    -- as many holders as alive tests, no more of those than the accounted weight, and room for one more
    rw [held, List.length_map]
    exact Nat.lt_of_le_of_lt (hok.length_le hpos.running hmax) (hasSpace_lt hs hw hmax)

theorem SchedInv.move {s t : SState} {a : List Item} (h : SchedInv s) (m : Move s a t) : SchedInv t := by
  obtain ⟨hok, hpos, hrest⟩ := (schedInv_iff s).mp h
  cases m with
  | launch hp hf =>
    obtain ⟨hpos', hw⟩ := hpos.popPending hp
    exact SchedInv.start _ ((schedInv_iff _).mpr ⟨hok, hpos', hrest⟩) hw hf.1
  | park hp hg hn => exact (schedInv_iff _).mpr ⟨hok, hpos.move (.park hp hg hn), hrest⟩
  | unpark hq hf =>
    obtain ⟨hpos', hw⟩ := hpos.popQueue hq
    exact SchedInv.start _ ((schedInv_iff _).mpr ⟨hok, hpos', hrest⟩) hw hf.1

theorem SchedInv.remove {s : SState} {id : Nat} {r : Running} (h : SchedInv s)
    (hf : s.running.find? (fun r => r.item.id == id) = some r) : SchedInv (s.remove id r) := by
  obtain ⟨hok, hpos, hslots, hbelow, hmax⟩ := (schedInv_iff s).mp h
  refine (schedInv_iff _).mpr ⟨hok.remove hf, hpos.remove id r, ?slots, ?below, by rwa [remove_maxW]⟩
  case slots =>
    rw [held, remove_running, remove_slots]
    exact hslots.release ((perm_cons_eraseP hf).map _)
  case below =>
    rw [remove_maxW, remove_running]
    exact fun x hx => hbelow x (List.mem_of_mem_eraseP hx)

theorem schedInv_init (maxW : Nat) (gm : List Nat) (items : List Item) (hm : 1 ≤ maxW) (hw : ∀ it ∈ items, 1 ≤ it.weight) :
    SchedInv (SState.init maxW gm items) :=
  (schedInv_iff _).mpr ⟨C08.globalOk_init maxW gm items, .init maxW gm hw, slots_init, by simp [SState.init], hm⟩

end NextestModel.C14
