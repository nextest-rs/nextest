/-
  Group slots (C14): the allocator invariant of Lemmas/Slots lifted to every test group of the scheduler model — a started member of
  group `g` gets the least group slot no alive member of `g` holds, group slots of alive members are distinct and below the
  group's max-threads, in every reachable state.  Same plan as Lemmas/GlobalSlots: `ginv_iff` reads the flat record `GInv` as
  invariants proved on their own plus what is particular to group slots; `GInv.start` / `.move` / `.remove` go through it.
-/
import NextestModel.Lemmas.Slots
import NextestModel.Lemmas.Sched
namespace NextestModel.GroupSlots
open NextestModel.Sched NextestModel.C08 NextestModel.C14

/-- the group slot a running future holds in group `g` (none if it is not a member) -/
def gslotOf (g : Nat) (r : Running) : Option Nat := if r.item.group = some g then r.groupSlot else none

/-- the group slots held by the alive members of `g` -/
def gheld (s : SState) (g : Nat) : List Nat := s.running.filterMap (gslotOf g)

/-- the group-slot invariant, as a flat record: the group accounting (`gok`, `qok`); for every configured group the allocator's
    invariant against the slots its alive members hold (`lenS`, `slots`); every running member of a group holds a slot below the
    group's max-threads (`hasSlot`); and what that bound rests on — items name configured groups only (`range*`), weigh at least
    1 (`pos*`), and max-threads is at least 1 (`gmaxPos`) -/
structure GInv (s : SState) : Prop where
  gok : GroupOk s
  qok : QueuesOk s
  lenS : s.gslots.length = s.groupMax.length
  slots : ∀ g, g < s.groupMax.length → SlotsInv (gheld s g) (s.gslots.getD g {})
  hasSlot : ∀ r ∈ s.running, ∀ g, r.item.group = some g →
    g < s.groupMax.length ∧ ∃ sl, r.groupSlot = some sl ∧ sl < s.groupMax.getD g 0
  rangeP : ∀ it ∈ s.pending, ∀ g, it.group = some g → g < s.groupMax.length
  rangeQ : ∀ g', ∀ it ∈ s.queues.getD g' [], ∀ g, it.group = some g → g < s.groupMax.length
  posR : ∀ r ∈ s.running, 1 ≤ r.item.weight
  posP : ∀ it ∈ s.pending, 1 ≤ it.weight
  posQ : ∀ g', ∀ it ∈ s.queues.getD g' [], 1 ≤ it.weight
  gmaxPos : ∀ g, g < s.groupMax.length → 1 ≤ s.groupMax.getD g 0

theorem ginv_iff (s : SState) : GInv s ↔ GroupOk s ∧ QueuesOk s ∧ AllItems (1 ≤ ·.weight) s ∧
    AllItems (fun it => ∀ g, it.group = some g → g < s.groupMax.length) s ∧
    s.gslots.length = s.groupMax.length ∧ (∀ g, g < s.groupMax.length → SlotsInv (gheld s g) (s.gslots.getD g {})) ∧
    (∀ r ∈ s.running, ∀ g, r.item.group = some g → ∃ sl, r.groupSlot = some sl ∧ sl < s.groupMax.getD g 0) ∧
    ∀ g, g < s.groupMax.length → 1 ≤ s.groupMax.getD g 0 :=
  ⟨fun h => ⟨h.gok, h.qok, ⟨h.posP, h.posQ, h.posR⟩, ⟨h.rangeP, h.rangeQ, fun r hr g hg => (h.hasSlot r hr g hg).1⟩, h.lenS, h.slots,
    fun r hr g hg => (h.hasSlot r hr g hg).2, h.gmaxPos⟩,
   fun ⟨gok, qok, pos, range, lenS, slots, has, gmaxPos⟩ =>
    { gok, qok, lenS, slots, gmaxPos, hasSlot := fun r hr g hg => ⟨range.running r hr g hg, has r hr g hg⟩,
      rangeP := range.pending, rangeQ := range.queued, posR := pos.running, posP := pos.pending, posQ := pos.queued }⟩

theorem gheld_start (s : SState) (it : Item) (g : Nat) : gheld (s.start it).1 g =
    gheld s g ++ if it.group = some g then [(s.gslots.getD g {}).reserve.1] else [] := by
  simp only [gheld, start_running, List.filterMap_append, List.filterMap_cons, List.filterMap_nil, gslotOf, start_item, start_groupSlot]
  by_cases hg : it.group = some g <;> simp [hg]

theorem gheld_remove {s : SState} {id : Nat} {r : Running} (hf : s.running.find? (fun r => r.item.id == id) = some r) (g : Nat) :
    (gheld s g).Perm ((gslotOf g r).toList ++ gheld (s.remove id r) g) := by
  unfold gheld
  rw [remove_running]
  refine ((perm_cons_eraseP hf).filterMap (gslotOf g)).trans ?_
  rw [List.filterMap_cons]
  cases gslotOf g r <;> exact .refl _

theorem gheld_length_lt {s : SState} {g w : Nat} (h : GInv s) (hw : 1 ≤ w) (hr : g < s.groupMax.length)
    (hsp : hasSpace (s.gcur.getD g 0) (s.groupMax.getD g 0) w = true) : (gheld s g).length < s.groupMax.getD g 0 := by
  -- as many holders as alive members, each weighing at least 1 in the group, and room for one more
  have hpg := h.gmaxPos g hr
  have hlen := length_filterMap_le_sum (gslotOf g) (grw s.groupMax g) s.running fun x hx hs => by
    have hm : x.item.group = some g := by
      unfold gslotOf at hs
      split at hs
      · assumption
      · cases hs
    rw [grw, if_pos hm]
    exact Nat.le_min.mpr ⟨h.posR x hx, hpg⟩
  rw [← gsum, ← (h.gok.2 g).1] at hlen
  exact Nat.lt_of_le_of_lt hlen (hasSpace_lt hsp hw hpg)

theorem GInv.start {s : SState} (it : Item) (h : GInv s) (hw : 1 ≤ it.weight)
    (hr : ∀ g, it.group = some g → g < s.groupMax.length)
    (hsg : ∀ g, it.group = some g → hasSpace (s.gcur.getD g 0) (s.groupMax.getD g 0) it.weight = true) :
    GInv (s.start it).1 := by
  obtain ⟨hok, hq, hpos, hrange, hlen, hslots, hhas, hmax⟩ := (ginv_iff s).mp h
  refine (ginv_iff _).mpr ⟨hok.start it hsg, hq.start it, hpos.start hw, by rw [start_groupMax]; exact hrange.start hr,
    ?lenS, ?slots, ?hasSlot, by rw [start_groupMax]; exact hmax⟩
  case lenS => rw [start_gslots_length, start_groupMax, hlen]
  case slots =>
    intro g hg
    rw [start_groupMax] at hg
    rw [gheld_start, start_gslots s it (hlen ▸ hg)]
    split
    · exact (hslots g hg).reserve.2.2
    · rw [List.append_nil]
      exact hslots g hg
  case hasSlot =>
    rw [start_groupMax, start_running, List.forall_mem_append, List.forall_mem_singleton, start_item]
    refine ⟨hhas, fun g hg => ⟨_, by rw [start_groupSlot, hg]; rfl, Nat.lt_of_le_of_lt (hslots g (hr g hg)).reserve_le ?_⟩⟩
    exact gheld_length_lt h hw (hr g hg) (hsg g hg)

theorem GInv.move {s t : SState} {a : List Item} (h : GInv s) (m : Move s a t) : GInv t := by
  obtain ⟨hok, hq, hpos, hrange, hrest⟩ := (ginv_iff s).mp h
  cases m with
  | launch hp hf =>
    obtain ⟨hpos', hw⟩ := hpos.popPending hp
    obtain ⟨hrange', hr⟩ := hrange.popPending hp
    exact GInv.start _ ((ginv_iff _).mpr ⟨hok, hq, hpos', hrange', hrest⟩) hw hr hf.2
  | park hp hg hn =>
    have m := Move.park hp hg hn
    exact (ginv_iff _).mpr ⟨hok, hq.move m, hpos.move m, hrange.move m, hrest⟩
  | unpark hqg hf =>
    obtain ⟨hpos', hw⟩ := hpos.popQueue hqg
    obtain ⟨hrange', hr⟩ := hrange.popQueue hqg
    obtain ⟨hq', hgrp⟩ := hq.popQueue hqg
    exact GInv.start _ ((ginv_iff _).mpr ⟨hok, hq', hpos', hrange', hrest⟩) hw hr fun g' hg' => hf.2 g' (hgrp ▸ hg')

theorem remove_gslots {s : SState} {id : Nat} {r : Running} (g : Nat) (hr : r.item.group.isSome → r.groupSlot.isSome)
    (hg : g < s.gslots.length) : (s.remove id r).gslots.getD g {} = match gslotOf g r with
      | none => s.gslots.getD g {}
      | some sl => (s.gslots.getD g {}).release sl := by
  obtain ⟨⟨_, _, grp⟩, _, gsl⟩ := r
  cases grp with
  | none => rfl
  | some g₀ =>
    cases gsl with
    | none => simp at hr
    | some sl =>
      simp only [SState.remove, gslotOf, Sched.getD_setAt]
      by_cases hgg : g₀ = g
      · subst hgg
        simp [hg]
      · simp [hgg]

theorem remove_gslots_length (s : SState) (id : Nat) (r : Running) : (s.remove id r).gslots.length = s.gslots.length := by
  unfold SState.remove
  split <;> simp [setAt]

theorem GInv.remove {s : SState} {id : Nat} {r : Running} (h : GInv s)
    (hf : s.running.find? (fun r => r.item.id == id) = some r) : GInv (s.remove id r) := by
  obtain ⟨hok, hq, hpos, hrange, hlen, hslots, hhas, hmax⟩ := (ginv_iff s).mp h
  have hmem := List.mem_of_find?_eq_some hf
  have hro : r.item.group.isSome → r.groupSlot.isSome := by
    intro hs
    obtain ⟨g, hg⟩ := Option.isSome_iff_exists.mp hs
    obtain ⟨sl, h1, _⟩ := hhas r hmem g hg
    simp [h1]
  refine (ginv_iff _).mpr ⟨hok.remove hro hf, hq.remove id r, hpos.remove id r, by rw [remove_groupMax]; exact hrange.remove id r,
    ?lenS, ?slots, ?hasSlot, by rw [remove_groupMax]; exact hmax⟩
  case lenS => rw [remove_gslots_length, remove_groupMax, hlen]
  case slots =>
    intro g hg
    rw [remove_groupMax] at hg
    have hp := gheld_remove hf g
    rw [remove_gslots g hro (by rw [hlen]; exact hg)]
    cases hs : gslotOf g r with
    | none =>
      rw [hs] at hp
      exact (hslots g hg).perm hp.symm
    | some sl =>
      rw [hs] at hp
      exact (hslots g hg).release hp
  case hasSlot =>
    rw [remove_groupMax, remove_running]
    exact fun x hx => hhas x (List.mem_of_mem_eraseP hx)

theorem ginv_init (maxW : Nat) (gm : List Nat) (items : List Item)
    (hw : ∀ it ∈ items, 1 ≤ it.weight) (hr : ∀ it ∈ items, ∀ g, it.group = some g → g < gm.length)
    (hgm : ∀ g, g < gm.length → 1 ≤ gm.getD g 0) : GInv (SState.init maxW gm items) := by
  have hi := groupInv_init maxW gm items
  refine (ginv_iff _).mpr ⟨hi.ok, hi.queues, .init maxW gm hw, .init maxW gm hr, by simp [SState.init], fun g _ => ?slots,
    fun r hr' => by simp [SState.init] at hr', hgm⟩
  have : (SState.init maxW gm items).gslots.getD g {} = {} := getD_map_const ..
  rw [this]
  exact slots_init

end NextestModel.GroupSlots
