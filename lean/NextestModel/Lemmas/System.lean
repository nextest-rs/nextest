/-
  Invariants of the dispatcher × units system (`Model/System`): what one dispatcher step does to registration (read off
  `Dispatcher.Handled`), `step` as five rules (`Step`), `SigInv` (what keeps `begin_cancel` from swallowing a first shutdown
  signal), and the two invariants `Inv`, `Inv2` proved together, unit by unit (`UnitInv`), all three in every reachable state
  (`reach`); then that the dispatcher never panics on what its units send, and that the channel can always be emptied.
-/
import NextestModel.Model.System
import NextestModel.Lemmas.Dispatcher
namespace NextestModel.System
open NextestModel.Dispatcher

/-- unit `i` is in `running_tests` and its request receiver is open: a broadcast reaches it -/
def registered (d : DState) (i : Nat) : Prop := d.running.any (·.1 == i) = true ∧ d.rxOpen.contains i = true

/-- test `i` is in `running_tests` -/
def keyed (d : DState) (i : Nat) : Prop := d.running.any (·.1 == i) = true

theorem registered.keyed {d : DState} {i : Nat} (h : registered d i) : keyed d i := h.1

def isStartedOf (i : Nat) : DEvent → Bool
  | .started j => j == i
  | _ => false
def isRetryOf (i : Nat) : DEvent → Bool
  | .retryStarted j _ _ => j == i
  | _ => false
def isFinishedOf (i : Nat) : DEvent → Bool
  | .finished j _ _ => j == i
  | _ => false
def isCloseOf (i : Nat) : DEvent → Bool
  | .closeRx j => j == i
  | _ => false

theorem any_insertSorted (i : Nat) (v : List Res) (j : Nat) (l : List (Nat × List Res)) :
    (insertSorted i v l).any (·.1 == j) = ((i == j) || l.any (·.1 == j)) := by
  induction l with
  | nil => rfl
  | cons a as ih =>
    simp only [insertSorted]
    split
    · rfl
    · rw [List.any_cons, ih, List.any_cons, Bool.or_left_comm]

theorem any_filter_key (l : List (Nat × List Res)) (i j : Nat) :
    (l.filter (·.1 != i)).any (·.1 == j) = (!(i == j) && l.any (·.1 == j)) := by
  rw [Bool.eq_iff_iff]
  simp only [List.any_eq_true, List.mem_filter, Bool.and_eq_true, Bool.not_eq_true', beq_iff_eq, bne_iff_ne, beq_eq_false_iff_ne]
  constructor
  · rintro ⟨x, ⟨hx, hne⟩, rfl⟩
    exact ⟨Ne.symm hne, x, hx, rfl⟩
  · rintro ⟨hne, x, hx, rfl⟩
    exact ⟨x, ⟨hx, Ne.symm hne⟩, rfl⟩

theorem contains_filter_ne (l : List Nat) (i j : Nat) : (l.filter (· != i)).contains j = (!(i == j) && l.contains j) := by
  rw [Bool.eq_iff_iff]
  simp only [List.contains_iff_mem, List.mem_filter, Bool.and_eq_true, Bool.not_eq_true', bne_iff_ne, beq_eq_false_iff_ne]
  exact ⟨fun ⟨h, hne⟩ => ⟨Ne.symm hne, h⟩, fun ⟨hne, h⟩ => ⟨h, Ne.symm hne⟩⟩

theorem contains_cons_filter (l : List Nat) (i j : Nat) : (i :: l.filter (· != i)).contains j = ((i == j) || l.contains j) := by
  rw [Bool.eq_iff_iff]
  by_cases h : j = i
  · simp [h]
  · simp [h, Ne.symm h]

/-- keys come into `running_tests` by a `Started` that is not refused, and leave by a `Finished` (the operands are in the order
    in which `||` and `&&` compute, so that an event that does neither is settled by `rfl`) -/
theorem any_runningEffect (s : DState) (e : DEvent) (j : Nat) :
    (runningEffect s e).any (·.1 == j) =
      ((isStartedOf j e && s.cancel.isNone) || (!isFinishedOf j e && s.running.any (·.1 == j))) := by
  cases e
  case started i =>
    cases hc : s.cancel <;> simp [runningEffect, hc, any_insertSorted, isStartedOf, isFinishedOf]
  case attemptFailedWillRetry i r sl =>
    show (s.running.map _).any _ = s.running.any _
    rw [List.any_map]
    congr 1
    funext x
    simp only [Function.comp]
    split <;> rfl
  case finished i r sl => exact any_filter_key _ i j
  all_goals rfl

theorem contains_rxOpenEffect (s : DState) (e : DEvent) (j : Nat) :
    (rxOpenEffect s e).contains j =
      ((isStartedOf j e && s.cancel.isNone) || (!isCloseOf j e && (!isFinishedOf j e && s.rxOpen.contains j))) := by
  cases e
  case started i =>
    -- `contains_cons_filter` is to meet `(i :: _).contains j` as it stands, hence the two simp lemmas switched off
    cases hc : s.cancel <;>
      simp [rxOpenEffect, hc, contains_cons_filter, isStartedOf, isFinishedOf, isCloseOf, -List.contains_cons, -List.contains_eq_mem]
  case closeRx i => exact contains_filter_ne _ i j
  case finished i r sl => exact contains_filter_ne _ i j
  all_goals rfl

theorem isStartedOf_iff {j : Nat} {e : DEvent} : isStartedOf j e = true ↔ e = .started j := by
  cases e <;> simp [isStartedOf]

theorem ack_iff {d d' : DState} {e : DEvent} {o : Out} (h : Dispatcher.step d e = .ok (d', o)) {j : Nat}
    (hs : isStartedOf j e = true) : o.reply = .ack ↔ d.cancel.isNone = true := by
  rw [(step_handled h).answer, isStartedOf_iff.mp hs]
  cases hc : d.cancel <;> simp [replyEffect, hc]

theorem keyed_iff {d d' : DState} {e : DEvent} {o : Out} (h : Dispatcher.step d e = .ok (d', o)) (j : Nat) :
    keyed d' j ↔ (isStartedOf j e = true ∧ o.reply = .ack) ∨ (isFinishedOf j e = false ∧ keyed d j) := by
  unfold keyed
  rw [(step_handled h).running, any_runningEffect, Bool.or_eq_true, Bool.and_eq_true, Bool.and_eq_true, Bool.not_eq_true']
  exact or_congr_left (and_congr_right fun hs => (ack_iff h hs).symm)

theorem registered_stays {d d' : DState} {e : DEvent} {o : Out} (h : Dispatcher.step d e = .ok (d', o)) {j : Nat}
    (hj : registered d j) (hf : isFinishedOf j e = false) (hc : isCloseOf j e = false) : registered d' j := by
  unfold registered
  rw [(step_handled h).running, (step_handled h).rxOpen, any_runningEffect, contains_rxOpenEffect, hf, hc, hj.1, hj.2]
  exact ⟨Bool.or_true _, Bool.or_true _⟩

theorem ack_registers {d d' : DState} {e : DEvent} {o : Out} (h : Dispatcher.step d e = .ok (d', o)) {j : Nat}
    (hs : isStartedOf j e = true) (ha : o.reply = .ack) : registered d' j := by
  unfold registered
  rw [(step_handled h).running, (step_handled h).rxOpen, any_runningEffect, contains_rxOpenEffect, hs,
    (ack_iff h hs).mp ha]
  exact ⟨rfl, rfl⟩

theorem mem_broadcast (d : DState) (r : Req) (i : Nat) : (some i, r) ∈ (d.broadcast r).1 ↔ registered d i := by
  simp only [DState.broadcast, List.mem_append, List.mem_map, List.mem_filter, registered, List.any_eq_true]
  constructor
  · rintro (h | ⟨e, ⟨he, ho⟩, heq⟩)
    · split at h <;> simp at h
    · cases heq
      exact ⟨⟨e, he, beq_self_eq_true _⟩, ho⟩
  · rintro ⟨⟨e, he, heq⟩, ho⟩
    cases eq_of_beq heq
    exact Or.inr ⟨e, ⟨he, ho⟩, rfl⟩

theorem mem_deliveredTo {dl : List (Option Nat × Req)} {i : Nat} {r : Req} (h : (some i, r) ∈ dl) : r ∈ deliveredTo dl i := by
  simp only [deliveredTo, List.mem_filterMap]
  exact ⟨(some i, r), h, by simp⟩

theorem isCancel_wakes {resp : Response} (h : resp.isCancel = true) : ∃ r, responseRequest resp = some r ∧ isWake r = true := by
  cases resp with
  | cancelReport => exact ⟨_, rfl, rfl⟩
  | cancelTestFailure => exact ⟨_, rfl, rfl⟩
  | cancelSignal r => exact ⟨_, rfl, rfl⟩
  | _ => cases h

/-- a step that begins the cancellation sends every registered unit a request that ends a retry delay (`mail`: whatever the unit's
    mailbox held before, so that the conclusion speaks of the mailbox `applyOut` leaves) -/
theorem cancel_wakes {d d' : DState} {e : DEvent} {o : Out} (h : Dispatcher.step d e = .ok (d', o)) (hc : d.cancel = none)
    (hc' : d'.cancel ≠ none) {j : Nat} (hj : registered d' j) (mail : List Req) :
    ∃ r ∈ mail ++ deliveredTo o.delivered j, isWake r = true := by
  rcases (step_handled h).cancel with ⟨h1, _⟩ | ⟨q, hq⟩
  · exact absurd (h1.trans hc) hc'
  · obtain ⟨r, hr, hw⟩ := isCancel_wakes hq.response
    refine ⟨r, List.mem_append_right _ (mem_deliveredTo ?_), hw⟩
    rw [step_delivered h, DState.deliveries, hr]
    exact List.mem_append_right _ ((mem_broadcast d' r j).mpr hj)

theorem retry_notified {d d' : DState} {j : Nat} {r : Res} {sl : Bool} {o : Out}
    (h : Dispatcher.step d (.attemptFailedWillRetry j r sl) = .ok (d', o)) (hc : d.cancel ≠ none) (hj : registered d j) :
    (some j, Req.otherCancel) ∈ o.delivered := by
  rw [step_delivered h]
  apply List.mem_append_left
  simp only [directDelivery, Option.isSome_iff_ne_none.mpr hc, hj.1, hj.2, Bool.and_self, if_true, List.mem_singleton]

/-- a unit's own moves: the unit, its phase before and after, and the message it sends -/
def Act.move : Act → Option (Nat × UPhase × UPhase × DEvent)
  | .dispatch i => some (i, .notStarted, .waitStart, .started i)
  | .exitFinish i r sl => some (i, .running, .done, .finished i r sl)
  | .exitRetry i r sl => some (i, .running, .delay, .attemptFailedWillRetry i r sl)
  | .delayExpires i a t => some (i, .delay, .waitRetry, .retryStarted i a t)
  | _ => none

def waiter : DEvent → Option Nat
  | .started i | .retryStarted i _ _ => some i
  | _ => none

/-- the unit whose `Started` / `RetryStarted` has been handled learns the answer: it runs, or is gone (receiver dropped) -/
def answered (s1 : Sys) (e : DEvent) (o : Out) : Sys :=
  match waiter e with
  | none => s1
  | some i =>
    if o.reply = .ack then setPhase s1 i .running
    else setPhase { s1 with d := { s1.d with rxOpen := s1.d.rxOpen.filter (· != i) } } i .gone

theorem answered_phase (s1 : Sys) (e : DEvent) (o : Out) (j : Nat) :
    (answered s1 e o).phase j = if waiter e = some j then (if o.reply = .ack then .running else .gone) else s1.phase j := by
  unfold answered
  cases waiter e with
  | none => simp
  | some i =>
    dsimp only
    by_cases hj : j = i
    · subst hj
      split <;> simp [setPhase]
    · rw [if_neg fun h => hj (Option.some.inj h).symm]
      split <;> simp [setPhase, hj]

theorem answered_chan_mail (s1 : Sys) (e : DEvent) (o : Out) : (answered s1 e o).chan = s1.chan ∧ (answered s1 e o).mail = s1.mail := by
  unfold answered
  cases waiter e with
  | none => exact ⟨rfl, rfl⟩
  | some i =>
    dsimp only
    split <;> exact ⟨rfl, rfl⟩

theorem answered_d (s1 : Sys) (e : DEvent) (o : Out) :
    (answered s1 e o).d = s1.d ∨ ∃ i, waiter e = some i ∧ o.reply ≠ .ack ∧
      (answered s1 e o).d = { s1.d with rxOpen := s1.d.rxOpen.filter (· != i) } := by
  unfold answered
  cases waiter e with
  | none => exact Or.inl rfl
  | some i =>
    dsimp only
    split
    · exact Or.inl rfl
    · exact Or.inr ⟨i, rfl, ‹_›, rfl⟩

inductive Step (s : Sys) : Act → Sys → Prop
  | move {a i p p' e} : a.move = some (i, p, p', e) → s.phase i = p → Step s a (send (setPhase s i p') e)
  | read {i r rest} : s.mail i = r :: rest →
      (s.phase i = .running ∨ s.phase i = .done ∨ (s.phase i = .delay ∧ isWake r = false)) → Step s (.recv i) (setMail s i rest)
  | wake {i r rest} : s.mail i = r :: rest → s.phase i = .delay → isWake r = true →
      Step s (.recv i) (send (setPhase (setMail s i rest) i .waitRetry) (.retryStarted i 0 0))
  | deliver {e rest d' o} : s.chan = e :: rest → Dispatcher.step s.d e = .ok (d', o) →
      Step s .deliver (answered (applyOut { s with chan := rest } d' o) e o)
  | external {e d' o} : isExternal e = true → Dispatcher.step s.d e = .ok (d', o) → Step s (.external e) (applyOut s d' o)

theorem step_move {s : Sys} {a : Act} {i : Nat} {p p' : UPhase} {e : DEvent} (hm : a.move = some (i, p, p', e)) :
    step s a = if s.phase i = p then some (send (setPhase s i p') e) else none := by
  cases a <;> cases hm <;> rfl

theorem step_deliver {s : Sys} {e : DEvent} {rest : List DEvent} {d' : DState} {o : Out} (hch : s.chan = e :: rest)
    (hd : Dispatcher.step s.d e = .ok (d', o)) :
    step s .deliver = some (answered (applyOut { s with chan := rest } d' o) e o) := by
  simp only [step, hch, hd]
  cases e with
  | started i => exact (apply_ite some ..).symm
  | retryStarted i a t => exact (apply_ite some ..).symm
  | _ => rfl

theorem step_iff {s : Sys} {a : Act} {s' : Sys} : step s a = some s' ↔ Step s a s' := by
  constructor
  · intro h
    cases hm : a.move with
    | some x =>
      obtain ⟨i, p, p', e⟩ := x
      rw [step_move hm] at h
      split at h
      · cases h
        exact .move hm ‹_›
      · cases h
    | none =>
      cases a with
      | deliver =>
        cases hch : s.chan with
        | nil => simp [step, hch] at h
        | cons e rest =>
          cases hd : Dispatcher.step s.d e with
          | error p => simp [step, hch, hd] at h
          | ok x =>
            rw [step_deliver hch hd] at h
            cases h
            exact .deliver hch hd
      | recv i =>
        simp only [step] at h
        split at h
        · cases h
        · rename_i r rest hmail
          -- by the unit's phase: running, delay (is the request a wake-up?), done, any other
          split at h
          · cases h
            exact .read hmail (Or.inl ‹_›)
          · split at h
            · cases h
              exact .wake hmail ‹_› ‹_›
            · cases h
              exact .read hmail (Or.inr (Or.inr ⟨‹_›, Bool.eq_false_iff.mpr ‹_›⟩))
          · cases h
            exact .read hmail (Or.inr (Or.inl ‹_›))
          · cases h
      | external e =>
        simp only [step] at h
        split at h
        · split at h
          · cases h
          · cases h
            exact .external ‹_› ‹_›
        · cases h
      | _ => cases hm
  · intro h
    cases h with
    | move hm hp => rw [step_move hm, if_pos hp]
    | read hmail hp =>
      rcases hp with hp | hp | ⟨hp, hw⟩
      · simp [step, hmail, hp]
      · simp [step, hmail, hp]
      · simp [step, hmail, hp, hw]
    | wake hmail hp hw => simp [step, hmail, hp, hw]
    | deliver hch hd => exact step_deliver hch hd
    | external hx hd => simp [step, hx, hd]

/-- before the first shutdown signal the cancel state is below the signal level -/
def SigInv (d : DState) : Prop := d.signalCount = 0 → C10.sev d.cancel ≤ 3

theorem cancelReason_sev {e : DEvent} {q : CancelReason} (hq : cancelReason e = some q) (hs : isShutdown e = false) :
    C10.sev (some q) ≤ 3 := by
  cases e with
  | finished =>
    cases hq
    decide
  | scriptFinished =>
    cases hq
    decide
  | reportCancel =>
    cases hq
    decide
  | shutdown => cases hs
  | _ => cases hq

theorem sigInv_step {d : DState} {e : DEvent} {d' : DState} {o : Out} (h : Dispatcher.step d e = .ok (d', o)) (hi : SigInv d) :
    SigInv d' := by
  have hh := step_handled h
  intro h0
  rw [hh.signalCount] at h0
  obtain ⟨h0, hs⟩ := Nat.add_eq_zero_iff.mp h0
  have hs : isShutdown e = false := by simpa using hs
  rcases hh.cancel with ⟨h1, _⟩ | ⟨q, hq⟩
  · rw [h1]
    exact hi h0
  · -- raised by this event, which is not a signal
    rw [hq.state]
    exact cancelReason_sev hq.reason hs

/-- the request a shutdown signal is turned into: the signal itself the first time, "kill" the second (`handle_signal_event`
    counts the signal first and then looks at the count) -/
def shutdownReqFor (d : DState) (sg : Sig) : ShutdownReq := if d.signalCount + 1 == 1 then .once sg else .twice

theorem shutdown_response {d : DState} {sg : Sig} {st : DState} {resp : Response} {reply : Reply} {em : List Emitted}
    (h : stepCore d (.shutdown sg) = .ok (st, resp, reply, em)) :
    resp = .cancelSignal (shutdownReqFor d sg) ∨
      (d.signalCount = 0 ∧ cancelLt d.cancel (sigReason sg) = false ∧ resp = .none) := by
  simp only [stepCore] at h
  split at h
  · cases h
  · cases h
    rcases beginCancel_cases { d with signalCount := d.signalCount + 1 } (sigReason sg) (.cancelSignal (shutdownReqFor d sg))
      with ⟨_, h⟩ | ⟨_, h⟩ | ⟨hne, hlt, h⟩
    -- `resp` is now `(withCancel …).2.1`, which is `(beginCancel …).2.1` by unfolding: the response of `h`'s right side
    · exact Or.inl (congrArg (·.2.1) h)
    · exact Or.inl (congrArg (·.2.1) h)
    · refine Or.inr ⟨?_, hlt, congrArg (·.2.1) h⟩
      -- with a count other than 0 the request would be `twice`
      apply Decidable.byContradiction
      intro hs
      apply hne
      rw [shutdownReqFor, if_neg (by simpa using hs)]

theorem shutdown_broadcast (d : DState) (sg : Sig) (d' : DState) (o : Out) (hi : SigInv d)
    (h : Dispatcher.step d (.shutdown sg) = .ok (d', o)) (j : Nat) (hj : registered d j) :
    (some j, Req.shutdown (shutdownReqFor d sg)) ∈ o.delivered := by
  obtain ⟨em, hcore, _, hdel⟩ := step_ok h
  have hresp : o.response = .cancelSignal (shutdownReqFor d sg) := by
    rcases shutdown_response hcore with hr | ⟨h0, hlt, _⟩
    · exact hr
    · -- a first signal outranks whatever `SigInv` allows the cancel state to be
      have : 3 < C10.sev (some (sigReason sg)) := by cases sg <;> decide
      exact absurd ((cancelLt_iff_sev _ _).mpr (Nat.lt_of_le_of_lt (hi h0) this)) (Bool.eq_false_iff.mp hlt)
  rw [hdel, hresp]
  exact List.mem_append_right _ ((mem_broadcast d' _ j).mpr (registered_stays h hj rfl rfl))

theorem sigInv_sys_step {s : Sys} {a : Act} {s' : Sys} (hi : SigInv s.d) (hs : step s a = some s') : SigInv s'.d := by
  cases step_iff.mp hs with
  | move | read | wake => exact hi
  | external _ hd => exact sigInv_step hd hi
  | @deliver e rest d' o _ hd =>
    have := sigInv_step hd hi
    -- dropping a receiver touches neither the cancel state nor the signal count
    rcases answered_d (applyOut { s with chan := rest } d' o) e o with h | ⟨_, _, _, h⟩
    · rw [h]
      exact this
    · rw [h]
      exact this

theorem sigInv_init (n : Nat) (mf : MaxFail) : SigInv (Sys.init n mf).d := fun _ => Nat.zero_le 3

def cnt (p : DEvent → Bool) (l : List DEvent) : Nat := (l.filter p).length

def UnitEvent (e : DEvent) : Prop :=
  (∃ i, e = .started i) ∨ (∃ i a t, e = .retryStarted i a t) ∨ (∃ i r sl, e = .attemptFailedWillRetry i r sl) ∨ (∃ i r sl, e = .finished i r sl)

/-- unit `i` has a wake-up pending: a cancellation request in its mailbox, or its `AttemptFailedWillRetry` still on its way
    to the dispatcher (which answers it with one) -/
def WakePending (s : Sys) (i : Nat) : Prop :=
  (∃ r ∈ s.mail i, isWake r = true) ∨ (∃ r sl, DEvent.attemptFailedWillRetry i r sl ∈ s.chan)

structure Inv (s : Sys) : Prop where
  /-- a unit whose attempt runs, or that is between attempts, is registered with the dispatcher and reachable -/
  reg : ∀ i, (s.phase i = .running ∨ s.phase i = .delay ∨ s.phase i = .waitRetry) → registered s.d i
  unitEv : ∀ e ∈ s.chan, UnitEvent e
  cS : ∀ i, cnt (isStartedOf i) s.chan ≤ (if s.phase i = .waitStart then 1 else 0)
  cR : ∀ i, cnt (isRetryOf i) s.chan ≤ (if s.phase i = .waitRetry then 1 else 0)
  cF : ∀ i, cnt (isFinishedOf i) s.chan ≤ (if s.phase i = .done then 1 else 0)
  /-- **a cancelled run has no unit that would sit out its retry delay** -/
  wake : ∀ i, s.phase i = .delay → s.d.cancel ≠ none → WakePending s i

theorem inv_init (n : Nat) (mf : MaxFail) : Inv (Sys.init n mf) := by
  refine ⟨?_, ?_, ?_, ?_, ?_, ?_⟩ <;> intros <;> simp_all [Sys.init, cnt]

def mentions (i : Nat) : DEvent → Bool
  | .started j => j == i
  | .retryStarted j _ _ => j == i
  | .attemptFailedWillRetry j _ _ => j == i
  | .finished j _ _ => j == i
  | _ => false

/-- unit `i`'s undelivered messages, in order -/
def proj (i : Nat) (l : List DEvent) : List DEvent := l.filter (mentions i)

/-- what unit `i`'s undelivered messages can be, phase by phase (the channel is FIFO and a unit is sequential) -/
def Pat (i : Nat) : UPhase → List DEvent → Prop
  | .notStarted, l => l = []
  | .waitStart, l => l = [.started i]
  | .running, l => l = []
  | .delay, l => l = [] ∨ ∃ r sl, l = [.attemptFailedWillRetry i r sl]
  | .waitRetry, l => (∃ a t, l = [.retryStarted i a t]) ∨ ∃ r sl a t, l = [.attemptFailedWillRetry i r sl, .retryStarted i a t]
  | .done, l => l = [] ∨ ∃ r sl, l = [.finished i r sl]
  | .gone, l => l = []

structure Inv2 (s : Sys) : Prop where
  pat : ∀ i, Pat i (s.phase i) (proj i s.chan)
  /-- a unit that has not been acknowledged is not in `running_tests` -/
  k1 : ∀ i, (s.phase i = .notStarted ∨ s.phase i = .waitStart) → ¬ keyed s.d i
  /-- a unit whose `Finished` is still on its way is -/
  k2 : ∀ i, s.phase i = .done → proj i s.chan ≠ [] → keyed s.d i

theorem inv2_init (n : Nat) (mf : MaxFail) : Inv2 (Sys.init n mf) := by
  refine ⟨?_, ?_, ?_⟩ <;> intros <;> simp_all [Sys.init, proj, Pat, keyed, DState.init]

theorem proj_append_single (i : Nat) (l : List DEvent) (e : DEvent) :
    proj i (l ++ [e]) = proj i l ++ (if mentions i e then [e] else []) := by
  simp only [proj, List.filter_append, List.filter_cons, List.filter_nil]

theorem proj_cons (i : Nat) (l : List DEvent) (e : DEvent) :
    proj i (e :: l) = if mentions i e then e :: proj i l else proj i l := by
  simp only [proj, List.filter_cons]

theorem external_mentions (e : DEvent) (h : isExternal e = true) (k : Nat) : mentions k e = false := by
  cases e <;> simp [isExternal] at h <;> rfl

theorem waiter_mentions {k : Nat} {e : DEvent} (h : waiter e = some k) : mentions k e = true := by
  cases e with
  | started i =>
    cases h
    exact beq_self_eq_true k
  | retryStarted i a t =>
    cases h
    exact beq_self_eq_true k
  | _ => cases h

/-- `Pat` as a relation: `cases` on it names the messages, settles the phase and drops the patterns that do not fit -/
inductive Pat' (i : Nat) : UPhase → List DEvent → Prop
  | idle {p : UPhase} : p ≠ .waitStart → p ≠ .waitRetry → Pat' i p []
  | started : Pat' i .waitStart [.started i]
  | failed {r sl} : Pat' i .delay [.attemptFailedWillRetry i r sl]
  | retry {a t} : Pat' i .waitRetry [.retryStarted i a t]
  | failedRetry {r sl a t} : Pat' i .waitRetry [.attemptFailedWillRetry i r sl, .retryStarted i a t]
  | finished {r sl} : Pat' i .done [.finished i r sl]

theorem pat_inv {i : Nat} {p : UPhase} {l : List DEvent} (h : Pat i p l) : Pat' i p l := by
  cases p <;> simp only [Pat] at h
  case waitStart =>
    subst h
    exact .started
  case delay =>
    rcases h with rfl | ⟨_, _, rfl⟩
    · exact .idle nofun nofun
    · exact .failed
  case waitRetry =>
    rcases h with ⟨_, _, rfl⟩ | ⟨_, _, _, _, rfl⟩
    · exact .retry
    · exact .failedRetry
  case done =>
    rcases h with rfl | ⟨_, _, rfl⟩
    · exact .idle nofun nofun
    · exact .finished
  -- not started, running, gone: no message
  all_goals
    subst h
    exact .idle nofun nofun

/-- the phases of `Inv.reg`: an attempt runs, or the unit is between attempts -/
def Active (p : UPhase) : Prop := p = .running ∨ p = .delay ∨ p = .waitRetry

instance (p : UPhase) : Decidable (Active p) := by
  unfold Active
  infer_instance

theorem Active.running : Active .running := Or.inl rfl
theorem Active.delay : Active .delay := Or.inr (Or.inl rfl)
theorem Active.waitRetry : Active .waitRetry := Or.inr (Or.inr rfl)

/-- what `Inv` and `Inv2` say of unit `k`, in terms of its phase `p`, its mailbox `m` and its undelivered messages `l` -/
structure UnitInv (d : DState) (k : Nat) (p : UPhase) (m : List Req) (l : List DEvent) : Prop where
  pat : Pat k p l
  reg : Active p → registered d k
  k1 : p = .notStarted ∨ p = .waitStart → ¬ keyed d k
  k2 : p = .done → l ≠ [] → keyed d k
  wake : p = .delay → d.cancel ≠ none → (∃ r ∈ m, isWake r = true) ∨ ∃ r sl, DEvent.attemptFailedWillRetry k r sl ∈ l

theorem kinds_of_not_mentions {k : Nat} {e : DEvent} (h : mentions k e = false) :
    isStartedOf k e = false ∧ isRetryOf k e = false ∧ isFinishedOf k e = false := by
  cases e with
  | started => exact ⟨h, rfl, rfl⟩
  | retryStarted => exact ⟨rfl, h, rfl⟩
  | finished => exact ⟨rfl, rfl, h⟩
  | _ => exact ⟨rfl, rfl, rfl⟩

theorem cnt_proj (k : Nat) (q : DEvent → Bool) (hq : ∀ e, mentions k e = false → q e = false) (l : List DEvent) :
    cnt q (proj k l) = cnt q l := by
  simp only [cnt, proj, List.filter_filter]
  congr 1
  exact List.filter_congr fun e _ => by cases h : mentions k e <;> simp [hq e, h]

/-- `Inv`'s counts are what the pattern of undelivered messages says -/
theorem pat_counts {k : Nat} {p : UPhase} {l : List DEvent} (h : Pat k p (proj k l)) :
    cnt (isStartedOf k) l ≤ (if p = .waitStart then 1 else 0) ∧ cnt (isRetryOf k) l ≤ (if p = .waitRetry then 1 else 0) ∧
    cnt (isFinishedOf k) l ≤ (if p = .done then 1 else 0) := by
  rw [← cnt_proj k _ (fun _ h => (kinds_of_not_mentions h).1), ← cnt_proj k _ (fun _ h => (kinds_of_not_mentions h).2.1),
    ← cnt_proj k _ (fun _ h => (kinds_of_not_mentions h).2.2)]
  generalize proj k l = l' at h
  -- each count is 0 by evaluation (`Nat.zero_le`) or, once the messages of other kinds are evaluated away, that of one message
  have one (q : DEvent → Bool) (e : DEvent) : cnt q [e] ≤ 1 := List.length_filter_le q [e]
  cases pat_inv h with
  | idle | failed => exact ⟨Nat.zero_le _, Nat.zero_le _, Nat.zero_le _⟩
  | started => exact ⟨one _ _, Nat.zero_le _, Nat.zero_le _⟩
  | retry | failedRetry => exact ⟨Nat.zero_le _, one _ _, Nat.zero_le _⟩
  | finished => exact ⟨Nat.zero_le _, Nat.zero_le _, one _ _⟩

theorem mem_proj_failed {k : Nat} {r : Res} {sl : Bool} {l : List DEvent} :
    DEvent.attemptFailedWillRetry k r sl ∈ proj k l ↔ DEvent.attemptFailedWillRetry k r sl ∈ l := by
  simp [proj, mentions]

theorem inv_iff (s : Sys) :
    Inv s ∧ Inv2 s ↔ (∀ e ∈ s.chan, UnitEvent e) ∧ ∀ k, UnitInv s.d k (s.phase k) (s.mail k) (proj k s.chan) := by
  constructor
  · rintro ⟨h, h2⟩
    exact ⟨h.unitEv, fun k => { pat := h2.pat k, reg := h.reg k, k1 := h2.k1 k, k2 := h2.k2 k, wake := fun hp hc =>
      (h.wake k hp hc).imp_right fun ⟨r, sl, hm⟩ => ⟨r, sl, mem_proj_failed.mpr hm⟩ }⟩
  · rintro ⟨hu, h⟩
    exact ⟨{ reg := fun k => (h k).reg, unitEv := hu, cS := fun k => (pat_counts (h k).pat).1,
             cR := fun k => (pat_counts (h k).pat).2.1, cF := fun k => (pat_counts (h k).pat).2.2, wake := fun k hp hc =>
               ((h k).wake hp hc).imp_right fun ⟨r, sl, hm⟩ => ⟨r, sl, mem_proj_failed.mp hm⟩ },
      { pat := fun k => (h k).pat, k1 := fun k => (h k).k1, k2 := fun k => (h k).k2 }⟩

theorem UnitInv.move {d : DState} {i : Nat} {p p' : UPhase} {m : List Req} {l : List DEvent} {a : Act} {e : DEvent}
    (h : UnitInv d i p m l) (hm : a.move = some (i, p, p', e)) : UnitInv d i p' m (l ++ [e]) := by
  have hp := h.pat
  cases a <;> cases hm <;> simp only [Pat] at hp
  case dispatch =>
    subst hp
    exact { pat := rfl, reg := fun h => absurd h (by decide), k1 := fun _ => h.k1 (Or.inl rfl), k2 := nofun, wake := nofun }
  case exitFinish r sl =>
    subst hp
    exact { pat := Or.inr ⟨r, sl, rfl⟩, reg := fun h => absurd h (by decide), k1 := fun h => absurd h (by decide),
            k2 := fun _ _ => (h.reg Active.running).keyed, wake := nofun }
  case exitRetry r sl =>
    subst hp
    exact { pat := Or.inr ⟨r, sl, rfl⟩, reg := fun _ => h.reg Active.running, k1 := fun h => absurd h (by decide), k2 := nofun,
            wake := fun _ _ => Or.inr ⟨r, sl, List.mem_singleton.mpr rfl⟩ }
  case delayExpires x y =>
    refine { pat := ?_, reg := fun _ => h.reg Active.delay, k1 := fun h => absurd h (by decide), k2 := nofun, wake := nofun }
    rcases hp with rfl | ⟨r, sl, rfl⟩
    · exact Or.inl ⟨x, y, rfl⟩
    · exact Or.inr ⟨r, sl, x, y, rfl⟩

theorem wake_in_rest {r : Req} {rest : List Req} (h : ∃ r' ∈ r :: rest, isWake r' = true) (hr : isWake r = false) :
    ∃ r' ∈ rest, isWake r' = true := by
  obtain ⟨r', hr', hw⟩ := h
  rcases List.mem_cons.mp hr' with rfl | hin
  · rw [hr] at hw
    cases hw
  · exact ⟨r', hin, hw⟩

theorem UnitInv.read {d : DState} {k : Nat} {p : UPhase} {r : Req} {m : List Req} {l : List DEvent}
    (h : UnitInv d k p (r :: m) l) (hr : p = .delay → isWake r = false) : UnitInv d k p m l :=
  { h with wake := fun hp hc => (h.wake hp hc).imp_left (wake_in_rest · (hr hp)) }

theorem UnitInv.other {d d' : DState} {e : DEvent} {o : Out} {k : Nat} {p : UPhase} {m : List Req} {l : List DEvent}
    (h : UnitInv d k p m l) (hd : Dispatcher.step d e = .ok (d', o)) (hm : mentions k e = false) (hc : isCloseOf k e = false) :
    UnitInv d' k p (m ++ deliveredTo o.delivered k) l := by
  obtain ⟨hs, -, hf⟩ := kinds_of_not_mentions hm
  have hk : keyed d' k ↔ keyed d k := by
    rw [keyed_iff hd, hs, hf]
    simp
  have hreg : Active p → registered d' k := fun ha => registered_stays hd (h.reg ha) hf hc
  refine { pat := h.pat, reg := hreg, k1 := fun hp hk' => h.k1 hp (hk.mp hk'), k2 := fun hp hl => hk.mpr (h.k2 hp hl),
           wake := fun hp hc' => ?_ }
  by_cases hc0 : d.cancel = none
  · exact Or.inl (cancel_wakes hd hc0 hc' (hreg (hp ▸ Active.delay)) m)
  · exact (h.wake hp hc0).imp_left fun ⟨r, hr, hw⟩ => ⟨r, List.mem_append_left _ hr, hw⟩

theorem UnitInv.running {d : DState} {k : Nat} {m : List Req} (h : registered d k) : UnitInv d k .running m [] :=
  { pat := rfl, reg := fun _ => h, k1 := fun h => absurd h (by decide), k2 := nofun, wake := nofun }

theorem UnitInv.gone {d : DState} {k : Nat} {m : List Req} : UnitInv d k .gone m [] :=
  { pat := rfl, reg := fun h => absurd h (by decide), k1 := fun h => absurd h (by decide), k2 := nofun, wake := nofun }

theorem UnitInv.deliver {d d' : DState} {e : DEvent} {o : Out} {k : Nat} {p : UPhase} {m : List Req} {l : List DEvent}
    (h : UnitInv d k p m (e :: l)) (hd : Dispatcher.step d e = .ok (d', o)) :
    UnitInv d' k (if waiter e = some k then (if o.reply = .ack then .running else .gone) else p)
      (m ++ deliveredTo o.delivered k) l := by
  cases pat_inv h.pat with
  | started =>
    simp only [waiter, if_true]
    split
    · exact .running (ack_registers hd (beq_self_eq_true k) ‹_›)
    · exact .gone
  | retry =>
    simp only [waiter, if_true]
    split
    · exact .running (registered_stays hd (h.reg Active.waitRetry) rfl rfl)
    · exact .gone
  | failed =>
    -- the unit stays in its retry delay: if the run is cancelled, by this step or earlier, the step wakes it
    show UnitInv d' k .delay _ _
    have hreg := registered_stays hd (h.reg Active.delay) rfl rfl
    refine { pat := Or.inl rfl, reg := fun _ => hreg, k1 := fun hp => absurd hp (by decide), k2 := nofun,
             wake := fun _ hc' => Or.inl ?_ }
    by_cases hc0 : d.cancel = none
    · exact cancel_wakes hd hc0 hc' hreg m
    · -- the unit may have read the broadcast already: the dispatcher tells it again
      exact ⟨_, List.mem_append_right _ (mem_deliveredTo (retry_notified hd hc0 (h.reg Active.delay))), rfl⟩
  | failedRetry =>
    show UnitInv d' k .waitRetry _ _
    exact { pat := Or.inl ⟨_, _, rfl⟩, reg := fun _ => registered_stays hd (h.reg Active.waitRetry) rfl rfl,
            k1 := fun hp => absurd hp (by decide), k2 := nofun, wake := nofun }
  | finished =>
    show UnitInv d' k .done _ _
    exact { pat := Or.inl rfl, reg := fun h => absurd h (by decide), k1 := fun h => absurd h (by decide),
            k2 := fun _ h => absurd rfl h, wake := nofun }

theorem UnitInv.dropRx {d : DState} {k : Nat} {p : UPhase} {m : List Req} {l : List DEvent} (h : UnitInv d k p m l) (i : Nat)
    (hi : k = i → ¬ Active p) : UnitInv { d with rxOpen := d.rxOpen.filter (· != i) } k p m l := by
  refine { h with reg := fun ha => ⟨(h.reg ha).1, ?_⟩ }
  show (d.rxOpen.filter (· != i)).contains k = true
  rw [contains_filter_ne, (h.reg ha).2, beq_false_of_ne fun e => hi e.symm ha]
  rfl

theorem move_event {a : Act} {i : Nat} {p p' : UPhase} {e : DEvent} (h : a.move = some (i, p, p', e)) :
    UnitEvent e ∧ ∀ k, mentions k e = (i == k) := by
  cases a <;> cases h
  · exact ⟨Or.inl ⟨_, rfl⟩, fun _ => rfl⟩
  · exact ⟨Or.inr (Or.inr (Or.inr ⟨_, _, _, rfl⟩)), fun _ => rfl⟩
  · exact ⟨Or.inr (Or.inr (Or.inl ⟨_, _, _, rfl⟩)), fun _ => rfl⟩
  · exact ⟨Or.inr (Or.inl ⟨_, _, _, rfl⟩), fun _ => rfl⟩

theorem unitEvent_close {e : DEvent} (h : UnitEvent e) (k : Nat) : isCloseOf k e = false := by
  rcases h with ⟨_, rfl⟩ | ⟨_, _, _, rfl⟩ | ⟨_, _, _, rfl⟩ | ⟨_, _, _, rfl⟩ <;> rfl

theorem external_close {e : DEvent} (h : isExternal e = true) (k : Nat) : isCloseOf k e = false := by
  cases e with
  | closeRx => cases h
  | _ => rfl

theorem units_send {s : Sys} {a : Act} {i : Nat} {p' : UPhase} {e : DEvent} (hu : ∀ e ∈ s.chan, UnitEvent e)
    (h : ∀ k, UnitInv s.d k (s.phase k) (s.mail k) (proj k s.chan)) (hm : a.move = some (i, s.phase i, p', e)) :
    (∀ x ∈ s.chan ++ [e], UnitEvent x) ∧
      ∀ k, UnitInv s.d k (if k = i then p' else s.phase k) (s.mail k) (proj k (s.chan ++ [e])) := by
  obtain ⟨he, hmen⟩ := move_event hm
  refine ⟨List.forall_mem_append.mpr ⟨hu, List.forall_mem_singleton.mpr he⟩, fun k => ?_⟩
  rw [proj_append_single, hmen]
  by_cases hk : k = i
  · subst hk
    rw [if_pos rfl, beq_self_eq_true, if_pos rfl]
    exact (h k).move hm
  · rw [if_neg hk, beq_false_of_ne (Ne.symm hk), if_neg Bool.false_ne_true, List.append_nil]
    exact h k

theorem units_read {d : DState} {phase : Nat → UPhase} {mail : Nat → List Req} {ls : Nat → List DEvent} {i : Nat} {r : Req}
    {rest : List Req} (h : ∀ k, UnitInv d k (phase k) (mail k) (ls k)) (hm : mail i = r :: rest)
    (hr : phase i = .delay → isWake r = false) (k : Nat) :
    UnitInv d k (phase k) (if k = i then rest else mail k) (ls k) := by
  by_cases hk : k = i
  · subst hk
    rw [if_pos rfl]
    exact (hm ▸ h k).read hr
  · rw [if_neg hk]
    exact h k

theorem units_step {s : Sys} {a : Act} {s' : Sys} (hu : ∀ e ∈ s.chan, UnitEvent e)
    (h : ∀ k, UnitInv s.d k (s.phase k) (s.mail k) (proj k s.chan)) (hs : Step s a s') :
    (∀ e ∈ s'.chan, UnitEvent e) ∧ ∀ k, UnitInv s'.d k (s'.phase k) (s'.mail k) (proj k s'.chan) := by
  cases hs with
  | move hm hp =>
    subst hp
    exact units_send hu h hm
  | @read i r rest hm hp =>
    refine ⟨hu, units_read h hm fun hd => ?_⟩
    rcases hp with hp | hp | ⟨_, hw⟩
    · cases hp.symm.trans hd
    · cases hp.symm.trans hd
    · exact hw
  | @wake i r rest hm hp hw =>
    -- what `delayExpires` does, and then the request is gone from the mailbox
    obtain ⟨h1, h2⟩ := units_send (a := .delayExpires i 0 0) (p' := .waitRetry) hu h (by rw [hp]; rfl)
    exact ⟨h1, units_read h2 hm fun hd => nomatch (if_pos rfl).symm.trans hd⟩
  | @deliver e rest d' o hch hd =>
    obtain ⟨he, hu'⟩ := List.forall_mem_cons.mp (hch ▸ hu)
    refine ⟨fun x hx => hu' x ?_, fun k => ?_⟩
    · rwa [(answered_chan_mail _ e o).1] at hx
    -- first the dispatcher's step and the answer to the unit that waits for one …
    have h1 : UnitInv d' k ((answered (applyOut { s with chan := rest } d' o) e o).phase k)
        (s.mail k ++ deliveredTo o.delivered k) (proj k rest) := by
      have := h k
      rw [hch, proj_cons] at this
      rw [answered_phase]
      by_cases hm : mentions k e = true
      · rw [if_pos hm] at this
        exact this.deliver hd
      · rw [if_neg hm] at this
        rw [if_neg fun hw => hm (waiter_mentions hw)]
        exact this.other hd (Bool.eq_false_iff.mpr hm) (unitEvent_close he k)
    -- … then, if that unit was refused, its receiver is dropped
    rw [(answered_chan_mail _ e o).1, (answered_chan_mail _ e o).2]
    rcases answered_d (applyOut { s with chan := rest } d' o) e o with hd' | ⟨i, hw, hna, hd'⟩
    · rw [hd']
      exact h1
    · rw [hd']
      refine h1.dropRx i fun hk => ?_
      rw [answered_phase, hk, if_pos hw, if_neg hna]
      decide
  | @external e d' o hx hd =>
    exact ⟨hu, fun k => (h k).other hd (external_mentions e hx k) (external_close hx k)⟩

theorem inv12_step {s : Sys} {a : Act} {s' : Sys} (h : Inv s) (h2 : Inv2 s) (hs : step s a = some s') : Inv s' ∧ Inv2 s' :=
  have ⟨hu, hk⟩ := (inv_iff s).mp ⟨h, h2⟩
  (inv_iff s').mpr (units_step hu hk (step_iff.mp hs))

theorem runActs_keeps {P : Sys → Prop} (hstep : ∀ {s a s'}, P s → step s a = some s' → P s') {acts : List Act} {s s' : Sys}
    (h : P s) (hr : runActs s acts = some s') : P s' := by
  induction acts generalizing s with
  | nil =>
    cases hr
    exact h
  | cons a as ih =>
    simp only [runActs] at hr
    split at hr
    · cases hr
    · exact ih (hstep h ‹_›) hr

theorem reach {n : Nat} {mf : MaxFail} {acts : List Act} {s : Sys} (h : runActs (Sys.init n mf) acts = some s) :
    Inv s ∧ Inv2 s ∧ SigInv s.d :=
  runActs_keeps (P := fun s => Inv s ∧ Inv2 s ∧ SigInv s.d)
    (fun ⟨h1, h2, h3⟩ hs => have ⟨h1', h2'⟩ := inv12_step h1 h2 hs; ⟨h1', h2', sigInv_sys_step h3 hs⟩)
    ⟨inv_init n mf, inv2_init n mf, sigInv_init n mf⟩ h

/-- the dispatcher handles the head of a unit's undelivered messages without panicking: a `Started` finds the test absent from
    `running_tests`, an `AttemptFailedWillRetry` or a `Finished` finds it there -/
theorem UnitInv.head_ok {d : DState} {k : Nat} {p : UPhase} {m : List Req} {e : DEvent} {l : List DEvent}
    (h : UnitInv d k p m (e :: l)) : ∃ x, stepCore d e = .ok x := by
  have retried (r sl) (hk : keyed d k) : ∃ x, stepCore d (.attemptFailedWillRetry k r sl) = .ok x := by
    obtain ⟨x, hx⟩ := Option.isSome_iff_exists.mp (List.isSome_find?.trans hk)
    simp only [stepCore, hx]
    exact ⟨_, rfl⟩
  cases pat_inv h.pat with
  | started =>
    have := h.k1 (Or.inr rfl)
    simp only [stepCore, show d.running.any (·.1 == k) = false from Bool.eq_false_iff.mpr this]
    split <;> exact ⟨_, rfl⟩
  | retry =>
    simp only [stepCore]
    split <;> exact ⟨_, rfl⟩
  | failed => exact retried _ _ (h.reg Active.delay).keyed
  | failedRetry => exact retried _ _ (h.reg Active.waitRetry).keyed
  | finished =>
    obtain ⟨x, hx⟩ := Option.isSome_iff_exists.mp (List.isSome_find?.trans (h.k2 rfl (List.cons_ne_nil _ _)))
    simp only [stepCore, hx]
    split <;> exact ⟨_, rfl⟩

theorem head_handled {s : Sys} (h : Inv s) (h2 : Inv2 s) {e : DEvent} {rest : List DEvent} (hch : s.chan = e :: rest) :
    ∃ d' o, Dispatcher.step s.d e = .ok (d', o) := by
  obtain ⟨hu, hk⟩ := (inv_iff s).mp ⟨h, h2⟩
  -- the head is some unit's message, and the first of that unit's
  have he := (List.forall_mem_cons.mp (hch ▸ hu)).1
  obtain ⟨k, hm⟩ : ∃ k, mentions k e = true := by
    rcases he with ⟨k, rfl⟩ | ⟨k, _, _, rfl⟩ | ⟨k, _, _, rfl⟩ | ⟨k, _, _, rfl⟩ <;> exact ⟨k, beq_self_eq_true k⟩
  have := hk k
  rw [hch, proj_cons, if_pos hm] at this
  obtain ⟨x, hx⟩ := this.head_ok
  exact step_of_core hx

theorem deliver_enabled (s : Sys) (h : Inv s) (h2 : Inv2 s) (hne : s.chan ≠ []) : ∃ s', step s .deliver = some s' := by
  cases hch : s.chan with
  | nil => exact absurd hch hne
  | cons e rest =>
    obtain ⟨d', o, hd⟩ := head_handled h h2 hch
    exact ⟨_, step_deliver hch hd⟩

theorem head_waiter {s : Sys} (h2 : Inv2 s) {e : DEvent} {rest : List DEvent} {i : Nat} (hch : s.chan = e :: rest)
    (hw : waiter e = some i) : s.phase i = .waitStart ∨ s.phase i = .waitRetry := by
  have hpat := h2.pat i
  rw [hch, proj_cons, if_pos (waiter_mentions hw)] at hpat
  generalize s.phase i = p, proj i rest = tl at hpat ⊢
  cases pat_inv hpat with
  | started => exact Or.inl rfl
  | retry => exact Or.inr rfl
  | failed | failedRetry | finished => cases hw

theorem waiting_has_message {s : Sys} (h2 : Inv2 s) {i : Nat} (hp : s.phase i = .waitStart ∨ s.phase i = .waitRetry) :
    proj i s.chan ≠ [] := by
  intro hc
  have := h2.pat i
  rw [hc] at this
  rcases hp with hp | hp <;> rw [hp] at this <;> simp [Pat] at this

theorem deliver_one {s : Sys} (h : Inv s) (h2 : Inv2 s) {e : DEvent} {rest : List DEvent} (hch : s.chan = e :: rest) :
    ∃ s1, step s .deliver = some s1 ∧ s1.chan = rest ∧ ∀ i, s1.phase i = s.phase i ∨
      ((s.phase i = .waitStart ∨ s.phase i = .waitRetry) ∧ (s1.phase i = .running ∨ s1.phase i = .gone)) := by
  obtain ⟨d', o, hd⟩ := head_handled h h2 hch
  refine ⟨_, step_deliver hch hd, (answered_chan_mail _ e o).1, fun i => ?_⟩
  rw [answered_phase]
  by_cases hw : waiter e = some i
  · rw [if_pos hw]
    refine Or.inr ⟨head_waiter h2 hch hw, ?_⟩
    split
    · exact Or.inl rfl
    · exact Or.inr rfl
  · exact Or.inl (if_neg hw)

theorem deliver_all (s : Sys) (h : Inv s) (h2 : Inv2 s) :
    ∃ s', runActs s (List.replicate s.chan.length .deliver) = some s' ∧ s'.chan = [] ∧
      ∀ i, (s.phase i = .waitStart ∨ s.phase i = .waitRetry → s'.phase i = .running ∨ s'.phase i = .gone) ∧
        (¬(s.phase i = .waitStart ∨ s.phase i = .waitRetry) → s'.phase i = s.phase i) := by
  generalize hch : s.chan = l
  induction l generalizing s with
  | nil =>
    exact ⟨s, rfl, hch, fun i => ⟨fun hp => absurd (congrArg (proj i) hch) (waiting_has_message h2 hp), fun _ => rfl⟩⟩
  | cons e rest ih =>
    obtain ⟨s1, hs1, hc1, hph1⟩ := deliver_one h h2 hch
    obtain ⟨h', h2'⟩ := inv12_step h h2 hs1
    obtain ⟨s', hr, hc, hph⟩ := ih s1 h' h2' hc1
    refine ⟨s', ?_, hc, fun i => ?_⟩
    · simp only [List.length_cons, List.replicate, runActs, hs1]
      exact hr
    rcases hph1 i with e1 | ⟨hw, ha⟩
    · rw [← e1]
      exact hph i
    · -- answered by this delivery, and the later ones leave a unit alone that runs or is gone
      have := (hph i).2 (by rcases ha with ha | ha <;> rw [ha] <;> decide)
      rw [← this] at ha
      exact ⟨fun _ => ha, fun hn => absurd hw hn⟩

theorem progress_possible (s : Sys) (h1 : Inv s) (h2 : Inv2 s) (i : Nat) (hp : s.phase i ≠ .done ∧ s.phase i ≠ .gone) :
    ∃ a, (a = .dispatch i ∨ a = .deliver ∨ (∃ r sl, a = .exitFinish i r sl) ∨ ∃ x y, a = .delayExpires i x y) ∧
      (step s a).isSome = true := by
  have waiting (hw : s.phase i = .waitStart ∨ s.phase i = .waitRetry) : (step s .deliver).isSome = true := by
    obtain ⟨s', hs'⟩ := deliver_enabled s h1 h2 fun hc => waiting_has_message h2 hw (congrArg (proj i) hc)
    rw [hs']
    rfl
  have moves {a p p' e} (hm : a.move = some (i, p, p', e)) (hph : s.phase i = p) : (step s a).isSome = true := by
    rw [step_iff.mpr (.move hm hph)]
    rfl
  cases hph : s.phase i
  case notStarted => exact ⟨.dispatch i, Or.inl rfl, moves rfl hph⟩
  case waitStart => exact ⟨.deliver, Or.inr (Or.inl rfl), waiting (Or.inl hph)⟩
  case waitRetry => exact ⟨.deliver, Or.inr (Or.inl rfl), waiting (Or.inr hph)⟩
  case running => exact ⟨.exitFinish i .pass false, Or.inr (Or.inr (Or.inl ⟨_, _, rfl⟩)), moves rfl hph⟩
  case delay => exact ⟨.delayExpires i 0 0, Or.inr (Or.inr (Or.inr ⟨_, _, rfl⟩)), moves rfl hph⟩
  case done => exact absurd hph hp.1
  case gone => exact absurd hph hp.2

-- What follows is used by nothing above, where the invariants go through `UnitInv`: direct forms of two steps of `Inv2` (a dispatcher
-- step's effect on the keys, the answer to a unit that waited) and a fact about `cnt`.

/-- the dispatcher's step applied: keys change only by an acknowledged start and a processed finish -/
theorem inv2_keys (s : Sys) (h2 : Inv2 s) (e : DEvent) (d' : DState) (o : Out) (hd : Dispatcher.step s.d e = .ok (d', o))
    (chan' : List DEvent) (hpat : ∀ i, Pat i (s.phase i) (proj i chan'))
    (hne1 : ∀ j, (s.phase j = .notStarted ∨ s.phase j = .waitStart) → ¬ (e = .started j ∧ o.reply = .ack))
    (hne2 : ∀ j, s.phase j = .done → proj j chan' ≠ [] → proj j s.chan ≠ [] ∧ ∀ r sl, e ≠ .finished j r sl) :
    Inv2 (applyOut { s with chan := chan' } d' o) := by
  refine ⟨hpat, fun j hj hk => ?_, fun j hj hne => ?_⟩
  · rcases (keyed_iff hd j).mp hk with h | h
    · exact hne1 j hj ⟨isStartedOf_iff.mp h.1, h.2⟩
    · exact h2.k1 j hj h.2
  · obtain ⟨h1, h2'⟩ := hne2 j hj hne
    refine (keyed_iff hd j).mpr (Or.inr ⟨?_, h2.k2 j hj h1⟩)
    cases e with
    | finished i r sl => exact beq_false_of_ne fun hi => h2' r sl (hi ▸ rfl)
    | _ => rfl

theorem inv2_reply (s : Sys) (h2 : Inv2 s) (i : Nat) (ack : Bool) (hp : proj i s.chan = [])
    (hph : s.phase i = .waitStart ∨ s.phase i = .waitRetry) :
    Inv2 (if ack then setPhase s i .running
          else setPhase { s with d := { s.d with rxOpen := s.d.rxOpen.filter (· != i) } } i .gone) := by
  -- a unit that waits for a reply has its announcement in the channel: `hp` cannot hold of it
  exact absurd hp (waiting_has_message h2 hph)

theorem cnt_pos_of_mem (p : DEvent → Bool) (l : List DEvent) (e : DEvent) (he : e ∈ l) (hp : p e = true) : 0 < cnt p l :=
  List.length_filter_pos_iff.mpr ⟨e, he, hp⟩

end NextestModel.System
