/-
  Scheduler invariants: the definitions the C08 / C14 / C02 theorems are stated with (`runOps`; `GlobalOk`, `GroupOk`,
  `QueuesOk`, `RunningOk`) and `AllItems` (a property of every item the scheduler holds), each with the two lemmas that make
  it an invariant: kept by every `Move`, kept by `remove` (Lemmas/SchedMoves.lean); hence by every operation and every run
  (`runOps_preserves`).

  Everything in this file is in namespace `NextestModel.C08`, where the definitions the theorems are stated with are: so it is
  `C08.runOps_preserves`, `C08.AllItems`, `C08.GroupInv`, `C08.globalOk_init` from Thm/C14 or Thm/C02 as well.
-/
import NextestModel.Lemmas.SchedMoves
namespace NextestModel.C08
open NextestModel.Sched

/-- the weight a running future holds globally: `min(threads-required, test-threads)` -/
def gw (maxW : Nat) (r : Running) : Nat := min r.item.weight maxW

/-- Σ over the futures alive right now -/
def wsum (s : SState) : Nat := (s.running.map (gw s.maxW)).sum

/-- **The global limit**: the accounted weight is exactly the sum over alive futures, and it never
    exceeds the test-thread count. -/
def GlobalOk (s : SState) : Prop := s.cur = wsum s ∧ s.cur ≤ s.maxW

/-- the weight a running future holds in group `g`: `min(threads-required, max-threads of g)` if it belongs to `g` -/
def grw (gm : List Nat) (g : Nat) (r : Running) : Nat := if r.item.group = some g then min r.item.weight (gm.getD g 0) else 0

def gsum (s : SState) (g : Nat) : Nat := (s.running.map (grw s.groupMax g)).sum

/-- **The group limit**: for every test group, the accounted weight is exactly the sum over the alive members, and never
    exceeds the group's max-threads. -/
def GroupOk (s : SState) : Prop :=
  s.gcur.length = s.groupMax.length ∧ ∀ g, s.gcur.getD g 0 = gsum s g ∧ s.gcur.getD g 0 ≤ s.groupMax.getD g 0

/-- an item parked in group `g`'s queue belongs to group `g` -/
def QueuesOk (s : SState) : Prop := ∀ g, ∀ it ∈ s.queues.getD g [], it.group = some g

/-- a running future remembers its group slot iff it has a group (how `start` creates it) -/
def RunningOk (s : SState) : Prop := ∀ r ∈ s.running, (r.item.group.isSome = r.groupSlot.isSome)

/-- run a list of operations (stops at the first ill-formed one: completing a future that is not running) -/
def runOps (s : SState) : List Op → Option SState
  | [] => some s
  | o :: os => match s.step o with
    | none => none
    | some (s', _) => runOps s' os

theorem runOps_induction {P : SState → Prop} (hstep : ∀ s op s' st, P s → s.step op = some (s', st) → P s') :
    ∀ (ops : List Op) {s s' : SState}, P s → runOps s ops = some s' → P s'
  | [], _, _, hs, h => by
    cases h
    exact hs
  | o :: os, s, s', hs, h => by
    simp only [runOps] at h
    split at h
    · cases h
    · rename_i hs1
      exact runOps_induction hstep os (hstep _ _ _ _ hs hs1) h

theorem runOps_preserves {P : SState → Prop} (hm : ∀ {s a t}, P s → Move s a t → P t)
    (hr : ∀ {s id r}, P s → s.running.find? (fun r => r.item.id == id) = some r → P (s.remove id r))
    (ops : List Op) {s s' : SState} : P s → runOps s ops = some s' → P s' :=
  runOps_induction (fun _ _ _ _ => step_preserves hm hr) ops

theorem runOps_consts {s s' : SState} (ops : List Op) (h : runOps s ops = some s') :
    s'.maxW = s.maxW ∧ s'.groupMax = s.groupMax :=
  runOps_induction (P := fun t => t.maxW = s.maxW ∧ t.groupMax = s.groupMax)
    (fun _ _ _ _ ht hs => ⟨(step_consts hs).1.trans ht.1, (step_consts hs).2.trans ht.2⟩) ops ⟨rfl, rfl⟩ h

theorem GlobalOk.start {s : SState} (it : Item) (h : GlobalOk s) (hs : hasSpace s.cur s.maxW it.weight = true) :
    GlobalOk (s.start it).1 := by
  rw [GlobalOk, wsum, start_cur, start_running, start_maxW, List.map_append, List.sum_append, ← wsum, ← h.1,
    List.map_singleton, List.sum_singleton, gw, start_item]
  exact ⟨rfl, hasSpace_le hs⟩

theorem GlobalOk.move {s t : SState} {a : List Item} (h : GlobalOk s) (m : Move s a t) : GlobalOk t := by
  cases m with
  | launch _ hf => exact GlobalOk.start _ h hf.1
  | park => exact h
  | unpark _ hf => exact GlobalOk.start _ h hf.1

theorem GlobalOk.remove {s : SState} {id : Nat} {r : Running} (h : GlobalOk s)
    (hf : s.running.find? (fun r => r.item.id == id) = some r) : GlobalOk (s.remove id r) := by
  obtain ⟨h1, h2⟩ := h
  rw [wsum, sum_eraseP (gw s.maxW) hf] at h1
  rw [GlobalOk, wsum, remove_maxW, remove_running, remove_cur, ← gw, h1, Nat.add_sub_cancel_left]
  exact ⟨rfl, Nat.le_trans (Nat.le_add_left ..) (h1 ▸ h2)⟩

theorem GlobalOk.length_le {s : SState} (h : GlobalOk s) (hpos : ∀ r ∈ s.running, 1 ≤ r.item.weight) (hm : 1 ≤ s.maxW) :
    s.running.length ≤ s.cur := by
  -- the counting lemma is about a `filterMap` (the members of one group, in Lemmas/GroupSlots); here it counts all futures
  have := length_filterMap_le_sum some (gw s.maxW) s.running fun r hr _ => Nat.le_min.mpr ⟨hpos r hr, hm⟩
  rwa [List.filterMap_some, ← wsum, ← h.1] at this

theorem GroupOk.start {s : SState} (it : Item) (h : GroupOk s)
    (hs : ∀ g, it.group = some g → hasSpace (s.gcur.getD g 0) (s.groupMax.getD g 0) it.weight = true) :
    GroupOk (s.start it).1 := by
  refine ⟨by rw [start_groupMax, start_gcur, length_account]; exact h.1, fun g => ?_⟩
  obtain ⟨h1, h2⟩ := h.2 g
  rw [start_gcur, getD_account h.1 _ (fun _ => rfl), gsum, start_running, start_groupMax, List.map_append, List.sum_append,
    ← gsum, ← h1, List.map_singleton, List.sum_singleton, grw, start_item]
  refine ⟨rfl, ?_⟩
  split
  · exact hasSpace_le (hs g ‹_›)
  · exact h2

theorem QueuesOk.start {s : SState} (it : Item) (h : QueuesOk s) : QueuesOk (s.start it).1 := by
  unfold QueuesOk
  rw [start_queues]
  exact h

theorem QueuesOk.popQueue {s : SState} {g : Nat} {it : Item} {rest : List Item} (h : QueuesOk s)
    (hq : s.queues.getD g [] = it :: rest) : QueuesOk { s with queues := setAt s.queues g rest } ∧ it.group = some g :=
  ⟨fun g' x hx => h g' x (mem_queue_pop hq hx), h g it (by rw [hq]; exact List.mem_cons_self ..)⟩

theorem QueuesOk.move {s t : SState} {a : List Item} (h : QueuesOk s) (m : Move s a t) : QueuesOk t := by
  cases m with
  | launch => exact QueuesOk.start _ h
  | park _ hg _ =>
    intro g' x hx
    rcases mem_queue_park hx with hx | ⟨rfl, rfl⟩
    · exact h g' x hx
    · exact hg
  | unpark hq _ => exact QueuesOk.start _ (h.popQueue hq).1

theorem GroupOk.move {s t : SState} {a : List Item} (h : GroupOk s) (hq : QueuesOk s) (m : Move s a t) : GroupOk t := by
  cases m with
  | launch _ hf => exact GroupOk.start _ h hf.2
  | park => exact h
  | unpark hqg hf => exact GroupOk.start _ h fun g' hg' => hf.2 g' ((hq.popQueue hqg).2 ▸ hg')

theorem RunningOk.start {s : SState} (it : Item) (h : RunningOk s) : RunningOk (s.start it).1 := by
  rw [RunningOk, start_running, List.forall_mem_append, List.forall_mem_singleton, start_item, start_groupSlot]
  exact ⟨h, by cases it.group <;> rfl⟩

theorem RunningOk.move {s t : SState} {a : List Item} (h : RunningOk s) (m : Move s a t) : RunningOk t := by
  cases m with
  | launch => exact RunningOk.start _ h
  | park => exact h
  | unpark => exact RunningOk.start _ h

theorem QueuesOk.remove {s : SState} (id : Nat) (r : Running) (h : QueuesOk s) : QueuesOk (s.remove id r) := h

theorem RunningOk.remove {s : SState} (id : Nat) (r : Running) (h : RunningOk s) : RunningOk (s.remove id r) :=
  fun x hx => h x (List.mem_of_mem_eraseP hx)

theorem GroupOk.remove {s : SState} {id : Nat} {r : Running} (h : GroupOk s) (hro : r.item.group.isSome → r.groupSlot.isSome)
    (hf : s.running.find? (fun r => r.item.id == id) = some r) : GroupOk (s.remove id r) := by
  have hgc := remove_gcur (s := s) (id := id) hro
  refine ⟨by rw [remove_groupMax, hgc, length_account]; exact h.1, fun g => ?_⟩
  obtain ⟨h1, h2⟩ := h.2 g
  rw [gsum, sum_eraseP (grw s.groupMax g) hf] at h1
  rw [hgc, getD_account h.1 _ (fun _ => rfl), gsum, remove_groupMax, remove_running, ← grw, h1, Nat.add_sub_cancel_left]
  exact ⟨rfl, Nat.le_trans (Nat.le_add_left ..) (h1 ▸ h2)⟩

/-- `GroupOk` is not kept on its own: unparking accounts the item to its own group, which is the queue's by `QueuesOk`, and
    `remove` gives back the group weight only of a future that has a group slot, which every grouped one has by `RunningOk` -/
structure GroupInv (s : SState) : Prop where
  ok : GroupOk s
  queues : QueuesOk s
  running : RunningOk s

theorem GroupInv.move {s t : SState} {a : List Item} (h : GroupInv s) (m : Move s a t) : GroupInv t :=
  ⟨h.ok.move h.queues m, h.queues.move m, h.running.move m⟩

theorem GroupInv.remove {s : SState} {id : Nat} {r : Running} (h : GroupInv s)
    (hf : s.running.find? (fun r => r.item.id == id) = some r) : GroupInv (s.remove id r) :=
  ⟨h.ok.remove (fun hs => h.running r (List.mem_of_find?_eq_some hf) ▸ hs) hf, h.queues.remove id r, h.running.remove id r⟩

theorem init_queue (maxW : Nat) (gm : List Nat) (items : List Item) (g : Nat) :
    (SState.init maxW gm items).queues.getD g [] = [] := getD_map_const ..

/-- Items only move, from the stream to a queue or to the running futures and from a queue to the running futures, so this is an
    invariant for every `Q`. -/
structure AllItems (Q : Item → Prop) (s : SState) : Prop where
  pending : ∀ it ∈ s.pending, Q it
  queued : ∀ g, ∀ it ∈ s.queues.getD g [], Q it
  running : ∀ r ∈ s.running, Q r.item

theorem AllItems.start {Q : Item → Prop} {s : SState} {it : Item} (h : AllItems Q s) (hit : Q it) : AllItems Q (s.start it).1 := by
  refine ⟨by rw [start_pending]; exact h.pending, by rw [start_queues]; exact h.queued, ?_⟩
  rw [start_running, List.forall_mem_append, List.forall_mem_singleton, start_item]
  exact ⟨h.running, hit⟩

theorem AllItems.popPending {Q : Item → Prop} {s : SState} {it : Item} {rest : List Item} (h : AllItems Q s)
    (hp : s.pending = it :: rest) : AllItems Q { s with pending := rest } ∧ Q it := by
  have hall : ∀ x ∈ it :: rest, Q x := hp ▸ h.pending
  exact ⟨⟨fun x hx => hall x (List.mem_cons_of_mem _ hx), h.queued, h.running⟩, hall it (List.mem_cons_self ..)⟩

theorem AllItems.popQueue {Q : Item → Prop} {s : SState} {g : Nat} {it : Item} {rest : List Item} (h : AllItems Q s)
    (hq : s.queues.getD g [] = it :: rest) : AllItems Q { s with queues := setAt s.queues g rest } ∧ Q it :=
  ⟨⟨h.pending, fun g' x hx => h.queued g' x (mem_queue_pop hq hx), h.running⟩,
   h.queued g it (by rw [hq]; exact List.mem_cons_self ..)⟩

theorem AllItems.move {Q : Item → Prop} {s t : SState} {a : List Item} (h : AllItems Q s) (m : Move s a t) : AllItems Q t := by
  cases m with
  | launch hp =>
    obtain ⟨h', hit⟩ := h.popPending hp
    exact h'.start hit
  | park hp =>
    obtain ⟨h', hit⟩ := h.popPending hp
    refine ⟨h'.pending, fun g' x hx => ?_, h.running⟩
    rcases mem_queue_park hx with hx | ⟨_, rfl⟩
    · exact h.queued g' x hx
    · exact hit
  | unpark hq =>
    obtain ⟨h', hit⟩ := h.popQueue hq
    exact h'.start hit

theorem AllItems.remove {Q : Item → Prop} {s : SState} (id : Nat) (r : Running) (h : AllItems Q s) : AllItems Q (s.remove id r) :=
  ⟨h.pending, h.queued, fun x hx => h.running x (List.mem_of_mem_eraseP hx)⟩

theorem AllItems.init {Q : Item → Prop} (maxW : Nat) (gm : List Nat) {items : List Item} (h : ∀ it ∈ items, Q it) :
    AllItems Q (SState.init maxW gm items) :=
  ⟨h, fun g it hit => (by rw [init_queue] at hit; cases hit), fun r hr => (by simp [SState.init] at hr)⟩

theorem globalOk_init (maxW : Nat) (gm : List Nat) (items : List Item) : GlobalOk (SState.init maxW gm items) := by
  simp [GlobalOk, SState.init, wsum]

theorem groupInv_init (maxW : Nat) (gm : List Nat) (items : List Item) : GroupInv (SState.init maxW gm items) := by
  refine ⟨⟨by simp [SState.init], fun g => ?_⟩, fun g it hit => ?_, fun r hr => by simp [SState.init] at hr⟩
  · have : (SState.init maxW gm items).gcur.getD g 0 = 0 := getD_map_const ..
    rw [this]
    exact ⟨by simp [gsum, SState.init], Nat.zero_le _⟩
  · rw [init_queue] at hit
    cases hit

theorem globalOk_run {maxW : Nat} {gm : List Nat} {items : List Item} {ops : List Op} {s' : SState}
    (h : runOps (SState.init maxW gm items) ops = some s') : GlobalOk s' ∧ s'.maxW = maxW :=
  ⟨runOps_preserves GlobalOk.move GlobalOk.remove ops (globalOk_init maxW gm items) h,
    (runOps_consts ops h).1⟩

theorem alive_le_width {maxW : Nat} {gm : List Nat} {items : List Item} {ops : List Op} {s' : SState}
    (hw : ∀ it ∈ items, 1 ≤ it.weight) (hm : 1 ≤ maxW)
    (h : runOps (SState.init maxW gm items) ops = some s') : s'.running.length ≤ maxW := by
  obtain ⟨hg, hmw⟩ := globalOk_run h
  have hpos := runOps_preserves AllItems.move (fun h _ => AllItems.remove _ _ h) ops (AllItems.init maxW gm hw) h
  rw [← hmw] at hm ⊢
  exact Nat.le_trans (hg.length_le hpos.running hm) hg.2

end NextestModel.C08
