/-
  Helper lemmas about the JUnit aggregation model (C17).  `writeEvents` is a fold of `addCase` over the (suite key, test case)
  pairs the events contribute (`writeEvents_eq`), so a fact about the report is a fact about that fold; the test case of a
  finished test has one of two shapes (`caseOfTest_cases`).
-/
import NextestModel.Model.Junit
namespace NextestModel.Junit
open NextestModel.Dispatcher

/-- the test cases of the suite with key `k` (empty if there is no such suite) -/
def casesFor (k : Key) : List Suite → List Case
  | [] => []
  | s :: ss => if s.key = k then s.cases else casesFor k ss

def allCases (ss : List Suite) : List Case := ss.flatMap (·.cases)

def contribs (evs : List Ev) : List (Key × Case) := evs.filterMap fun e => (contribution e).join

def addCases (S : List Suite) (kcs : List (Key × Case)) : List Suite := kcs.foldl (fun S kc => addCase S kc.1 kc.2) S

theorem contribs_cons_some {e : Ev} {kc : Key × Case} (h : contribution e = some (some kc)) (es : List Ev) :
    contribs (e :: es) = kc :: contribs es := by
  simp [contribs, h]

theorem contribs_cons_none {e : Ev} (h : contribution e = some none) (es : List Ev) : contribs (e :: es) = contribs es := by
  simp [contribs, h]

theorem addCases_nil (S : List Suite) : addCases S [] = S := rfl

theorem addCases_cons (S : List Suite) (kc : Key × Case) (kcs : List (Key × Case)) :
    addCases S (kc :: kcs) = addCases (addCase S kc.1 kc.2) kcs := rfl

/-- what an event contributes when the aggregator does not panic on it -/
inductive Contributes : Ev → Prop
  | test (b n : String) (as : List Res) (s f : Bool) (c : Case) (hc : caseOfTest n as s f = some c)
      (h : contribution (.testFinished b n as s f) = some (some (.binary b, c))) : Contributes (.testFinished b n as s f)
  | script (id : String) (r : Res) (s f : Bool) (c : Case) (hc : caseOfScript id r s f = some c)
      (h : contribution (.scriptFinished id r s f) = some (some (.script id, c))) : Contributes (.scriptFinished id r s f)
  | other (h : contribution .other = some none) : Contributes .other

theorem contribution_cases {e : Ev} (h : (contribution e).isSome) : Contributes e := by
  cases e with
  | testFinished b n as s f =>
    obtain ⟨c, hc⟩ := Option.isSome_iff_exists.mp (by simpa [contribution] using h)
    exact .test b n as s f c hc (by simp [contribution, hc])
  | scriptFinished id r s f =>
    obtain ⟨c, hc⟩ := Option.isSome_iff_exists.mp (by simpa [contribution] using h)
    exact .script id r s f c hc (by simp [contribution, hc])
  | other => exact .other rfl

theorem writeEvents_eq (S : List Suite) (evs : List Ev) :
    writeEvents S evs =
      if evs.all (fun e => (contribution e).isSome) then some (addCases S (contribs evs)) else none := by
  induction evs generalizing S with
  | nil => rfl
  | cons e es ih =>
    rw [writeEvents]
    cases hc : contribution e with
    | none => simp [hc]
    | some o =>
      cases o with
      | none => simp [hc, ih, contribs_cons_none hc]
      | some kc => simp [hc, ih, contribs_cons_some hc, addCases_cons]

theorem writeEvents_some {S R : List Suite} {evs : List Ev} (h : writeEvents S evs = some R) :
    (∀ e ∈ evs, (contribution e).isSome) ∧ R = addCases S (contribs evs) := by
  rw [writeEvents_eq, Option.ite_none_right_eq_some, List.all_eq_true, Option.some.injEq] at h
  exact ⟨h.1, h.2.symm⟩

theorem casesFor_addCase (ss : List Suite) (k k' : Key) (c : Case) :
    casesFor k' (addCase ss k c) = if k = k' then casesFor k' ss ++ [c] else casesFor k' ss := by
  induction ss with
  | nil => by_cases h : k = k' <;> simp [addCase, casesFor, h]
  | cons s ss ih =>
    by_cases hs : s.key = k
    · subst hs
      by_cases h : s.key = k' <;> simp [addCase, casesFor, h]
    · by_cases h' : s.key = k'
      · have hk : k ≠ k' := fun e => hs (h'.trans e.symm)
        simp [addCase, casesFor, h', hk, Ne.symm hk]
      · simp [addCase, casesFor, hs, h', ih]

theorem casesFor_addCases (k : Key) (kcs : List (Key × Case)) (S : List Suite) :
    casesFor k (addCases S kcs) = casesFor k S ++ (kcs.filter (·.1 = k)).map (·.2) := by
  induction kcs generalizing S with
  | nil => simp [addCases_nil]
  | cons kc kcs ih =>
    rw [addCases_cons, ih, casesFor_addCase]
    by_cases h : kc.1 = k <;> simp [h]

theorem writeEvents_casesFor {k : Key} {evs : List Ev} {S R : List Suite} (h : writeEvents S evs = some R) :
    casesFor k R = casesFor k S ++ ((contribs evs).filter (·.1 = k)).map (·.2) := by
  rw [(writeEvents_some h).2, casesFor_addCases]

theorem allCases_addCase (ss : List Suite) (k : Key) (c : Case) : (allCases (addCase ss k c)).Perm (c :: allCases ss) := by
  induction ss with
  | nil => simp [addCase, allCases]
  | cons s ss ih =>
    by_cases hs : s.key = k
    · simp [addCase, hs, allCases, List.perm_middle]
    · simpa [addCase, hs, allCases] using (ih.append_left s.cases).trans List.perm_middle

/-- a permutation is enough: the length and every `countP` of the report are read off it -/
theorem allCases_addCases (kcs : List (Key × Case)) (S : List Suite) :
    (allCases (addCases S kcs)).Perm (allCases S ++ kcs.map (·.2)) := by
  induction kcs generalizing S with
  | nil => simp [addCases_nil]
  | cons kc kcs ih =>
    rw [addCases_cons]
    have h1 := ((allCases_addCase S kc.1 kc.2).append_right (kcs.map (·.2))).trans List.perm_middle.symm
    exact (ih _).trans (by simpa using h1)

theorem addCase_keys (ss : List Suite) (k : Key) (c : Case) :
    (addCase ss k c).map (·.key) = if k ∈ ss.map (·.key) then ss.map (·.key) else ss.map (·.key) ++ [k] := by
  induction ss with
  | nil => simp [addCase]
  | cons s ss ih =>
    by_cases hs : s.key = k
    · simp [addCase, hs]
    · simp only [addCase, hs, if_false, List.map_cons, ih, List.mem_cons, Ne.symm hs, false_or]
      split <;> rfl

theorem addCase_nodup (ss : List Suite) (k : Key) (c : Case) (h : (ss.map (·.key)).Nodup) :
    ((addCase ss k c).map (·.key)).Nodup := by
  rw [addCase_keys]
  split
  · exact h
  · exact (List.perm_append_singleton ..).nodup_iff.mpr (List.nodup_cons.mpr ⟨‹_›, h⟩)

theorem addCases_nodup (kcs : List (Key × Case)) (S : List Suite) (h : (S.map (·.key)).Nodup) :
    ((addCases S kcs).map (·.key)).Nodup :=
  List.foldlRecOn kcs _ (motive := fun S : List Suite => (S.map (·.key)).Nodup) h fun S hS kc _ => addCase_nodup S kc.1 kc.2 hS

theorem kindAndType_of_failed (unit : String) {r : Res} (h : r.isSuccess = false) : ∃ kt, kindAndType unit r = some kt := by
  cases r with
  | pass => cases h
  | leak => cases h
  | fail sg lk => cases sg <;> cases lk <;> exact ⟨_, rfl⟩
  | execFail => exact ⟨_, rfl⟩
  | timeout => exact ⟨_, rfl⟩

theorem rerunsFrom_some (storeF : Bool) (off : Nat) (rs : List Res) (h : ∀ r ∈ rs, r.isSuccess = false) :
    ∃ rr, rerunsFrom storeF off rs = some rr := by
  induction rs generalizing off with
  | nil => exact ⟨[], rfl⟩
  | cons r rs ih =>
    obtain ⟨rest, hrest⟩ := ih (off + 1) (fun x hx => h x (by simp [hx]))
    obtain ⟨kt, hkt⟩ := kindAndType_of_failed "test" (h r (by simp))
    exact ⟨_, by rw [rerunsFrom, hkt, hrest]⟩

theorem rerunsFrom_spec {storeF : Bool} {off : Nat} {rs : List Res} {rr : List Rerun} (h : rerunsFrom storeF off rs = some rr) :
    rr.length = rs.length ∧ rr.map (·.attempt) = List.range' off rs.length ∧ (∀ x ∈ rr, x.stored = storeF) ∧
    rr.map (fun x => some (x.kind, x.ty)) = rs.map (kindAndType "test") := by
  induction rs generalizing off rr with
  | nil => cases h; simp
  | cons r rs ih =>
    rw [rerunsFrom] at h
    split at h
    · rename_i k ty rest hk hr
      cases h
      obtain ⟨h1, h2, h3, h4⟩ := ih hr
      simpa [h1, h2, h4, hk, List.range'_succ] using h3
    · cases h

theorem WFAttempts.all_failed {as : List Res} {last : Res} (hwf : WFAttempts as) (hl : as.getLast? = some last)
    (hs : last.isSuccess = false) : ∀ r ∈ as, r.isSuccess = false := by
  obtain ⟨ys, rfl⟩ := List.getLast?_eq_some_iff.mp hl
  exact List.forall_mem_append.mpr ⟨fun r h => hwf.2 r (by simpa using h), List.forall_mem_singleton.mpr hs⟩

/-- covers the single-attempt arm of `caseOfTest` too: it is this formula with no reruns -/
theorem caseOfTest_of_success (n : String) {as : List Res} (s f : Bool) {last : Res} (hl : as.getLast? = some last)
    (hs : last.isSuccess = true) :
    caseOfTest n as s f = (rerunsFrom f 0 as.dropLast).map fun rr =>
      { name := n, status := none, main := as.length - 1, stored := storeRule s f last, reruns := rr } := by
  obtain ⟨ys, rfl⟩ := List.getLast?_eq_some_iff.mp hl
  cases ys with
  | nil => simp [caseOfTest, hs, rerunsFrom]
  | cons y ys =>
    simp only [caseOfTest, hl, hs, List.dropLast_concat]
    cases rerunsFrom f 0 (y :: ys) <;> simp

theorem caseOfTest_of_failure (n : String) (first : Res) (rest : List Res) (s f : Bool) {last : Res}
    (hl : (first :: rest).getLast? = some last) (hs : last.isSuccess = false) :
    caseOfTest n (first :: rest) s f = (kindAndType "test" first).bind fun st => (rerunsFrom f 1 rest).map fun rr =>
      { name := n, status := some st, main := 0, stored := storeRule s f first, reruns := rr } := by
  simp only [caseOfTest, hl, hs]
  cases kindAndType "test" first <;> cases rerunsFrom f 1 rest <;> rfl

theorem caseOfTest_last {n : String} {as : List Res} {s f : Bool} {c : Case} (h : caseOfTest n as s f = some c) :
    ∃ last, as.getLast? = some last := by
  cases hl : as.getLast? with
  | none => simp [caseOfTest, hl] at h
  | some last => exact ⟨last, rfl⟩

/-- the two shapes of the test case of a finished test whose attempts end in `last` -/
inductive CaseOfTest (n : String) (s f : Bool) (last : Res) : List Res → Case → Prop
  | success {as rr} (hs : last.isSuccess = true) (hrr : rerunsFrom f 0 as.dropLast = some rr) :
      CaseOfTest n s f last as { name := n, status := none, main := as.length - 1, stored := storeRule s f last, reruns := rr }
  | failure {first rest st rr} (hs : last.isSuccess = false) (hst : kindAndType "test" first = some st)
      (hrr : rerunsFrom f 1 rest = some rr) :
      CaseOfTest n s f last (first :: rest) { name := n, status := some st, main := 0, stored := storeRule s f first, reruns := rr }

theorem caseOfTest_cases {n : String} {as : List Res} {s f : Bool} {c : Case} {last : Res} (h : caseOfTest n as s f = some c)
    (hl : as.getLast? = some last) : CaseOfTest n s f last as c := by
  cases hs : last.isSuccess with
  | false =>
    cases as with
    | nil => cases hl
    | cons first rest =>
      rw [caseOfTest_of_failure n first rest s f hl hs, Option.bind_eq_some_iff] at h
      obtain ⟨st, hst, h⟩ := h
      obtain ⟨rr, hrr, rfl⟩ := Option.map_eq_some_iff.mp h
      exact .failure hs hst hrr
  | true =>
    rw [caseOfTest_of_success n s f hl hs] at h
    obtain ⟨rr, hrr, rfl⟩ := Option.map_eq_some_iff.mp h
    exact .success hs hrr

theorem caseOfTest_of_wf (n : String) {as : List Res} (s f : Bool) (hwf : WFAttempts as) :
    ∃ c, caseOfTest n as s f = some c := by
  cases as with
  | nil => exact absurd rfl hwf.1
  | cons first rest =>
    obtain ⟨last, hl⟩ : ∃ last, (first :: rest).getLast? = some last := Option.isSome_iff_exists.mp rfl
    cases hs : last.isSuccess with
    | false =>
      have hall := hwf.all_failed hl hs
      obtain ⟨st, hst⟩ := kindAndType_of_failed "test" (hall first (by simp))
      obtain ⟨rr, hrr⟩ := rerunsFrom_some f 1 rest fun r hr => hall r (by simp [hr])
      exact ⟨_, by rw [caseOfTest_of_failure n first rest s f hl hs, hst, hrr]; rfl⟩
    | true =>
      obtain ⟨rr, hrr⟩ := rerunsFrom_some f 0 _ hwf.2
      exact ⟨_, by rw [caseOfTest_of_success n s f hl hs, hrr]; rfl⟩

theorem caseOfScript_some (id : String) (r : Res) (s f : Bool) : ∃ c, caseOfScript id r s f = some c := by
  cases hs : r.isSuccess with
  | false =>
    obtain ⟨st, hst⟩ := kindAndType_of_failed "script" hs
    exact ⟨_, by simp only [caseOfScript, hs, hst]; rfl⟩
  | true => exact ⟨_, by simp only [caseOfScript, hs]; rfl⟩

inductive CaseOfScript (id : String) (r : Res) (s f : Bool) : Case → Prop
  | success (hs : r.isSuccess = true) :
      CaseOfScript id r s f { name := id, status := none, main := 0, stored := storeRule s f r, reruns := [] }
  | failure {st} (hs : r.isSuccess = false) (hst : kindAndType "script" r = some st) :
      CaseOfScript id r s f { name := id, status := some st, main := 0, stored := storeRule s f r, reruns := [] }

theorem caseOfScript_cases {id : String} {r : Res} {s f : Bool} {c : Case} (h : caseOfScript id r s f = some c) :
    CaseOfScript id r s f c := by
  unfold caseOfScript at h
  split at h
  · rename_i hs
    cases h
    exact .success hs
  · rename_i hs
    split at h
    · rename_i st hst
      cases h
      exact .failure (by simpa using hs) hst
    · cases h

theorem contribution_isSome {e : Ev} (hwf : WFEv e) : (contribution e).isSome := by
  cases e with
  | testFinished b n as s f =>
    obtain ⟨c, hc⟩ := caseOfTest_of_wf n s f hwf
    simp [contribution, hc]
  | scriptFinished id r s f =>
    obtain ⟨c, hc⟩ := caseOfScript_some id r s f
    simp [contribution, hc]
  | other => rfl

end NextestModel.Junit
