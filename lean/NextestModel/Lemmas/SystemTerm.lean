/-
  Termination of a cancelled run on the dispatcher × units system (Model/System): a measure — twice the units' phase ranks plus
  the messages under way, then the requests not yet read — that every step other than a new signal decreases once the run is
  cancelled (a retry is then refused: `Dispatcher.Handled.refused`); and the same with retry budgets instead of cancellation.
  The argument is made once, for any weight of the phases (`weight_decreases`).
-/
import NextestModel.Lemmas.System
namespace NextestModel.System
open NextestModel.Dispatcher

/-- every move of a unit's own lowers its rank by at least one and puts one message into the channel, whence the factor 2 in
    `K`; an acknowledged start leaves it (`waitStart`, `running`) while the delivery takes the message off; the one step that
    would raise it is an acknowledged retry (`waitRetry` to `running`), and a cancelled run refuses those -/
def rank : UPhase → Nat
  | .notStarted => 5 | .waitStart => 4 | .running => 4 | .delay => 3 | .waitRetry => 2 | .done => 0 | .gone => 0

def sumOver (N : Nat) (f : Nat → Nat) : Nat := ((List.range N).map f).sum

theorem sumOver_succ (N : Nat) (f : Nat → Nat) : sumOver (N + 1) f = sumOver N f + f N := by
  simp [sumOver, List.range_succ]

theorem sumOver_mono (N : Nat) {f g : Nat → Nat} (h : ∀ j, g j ≤ f j) : sumOver N g ≤ sumOver N f := by
  induction N with
  | zero => exact Nat.le_refl _
  | succ n ih =>
    rw [sumOver_succ, sumOver_succ]
    exact Nat.add_le_add ih (h n)

theorem sumOver_lt {N i : Nat} {f g : Nat → Nat} (hi : i < N) (hfg : ∀ j, j ≠ i → g j = f j) (h : g i < f i) :
    sumOver N g < sumOver N f := by
  have hle (j : Nat) : g j ≤ f j := if hj : j = i then hj ▸ Nat.le_of_lt h else Nat.le_of_eq (hfg j hj)
  induction N with
  | zero => cases hi
  | succ n ih =>
    rw [sumOver_succ, sumOver_succ]
    rcases Nat.lt_succ_iff_lt_or_eq.mp hi with hi | rfl
    · exact Nat.add_lt_add_of_lt_of_le (ih hi) (hle n)
    · exact Nat.add_lt_add_of_le_of_lt (sumOver_mono _ hle) h

def K (N : Nat) (s : Sys) : Nat := 2 * sumOver N (fun i => rank (s.phase i)) + s.chan.length
def mails (N : Nat) (s : Sys) : Nat := sumOver N (fun i => (s.mail i).length)

def unitOf : Act → Option Nat
  | .dispatch i | .exitFinish i _ _ | .exitRetry i _ _ | .recv i | .delayExpires i _ _ => some i
  | _ => none

/-- one step of a run that is being cancelled, taken by the dispatcher or by one of the `N` units (no new signal) -/
def Rel (N : Nat) (s' s : Sys) : Prop :=
  s.d.cancel.isSome = true ∧ ∃ a, (∀ e, a ≠ .external e) ∧ (∀ i, unitOf a = some i → i < N) ∧ step s a = some s'

theorem measure_send {N i : Nat} {w w' : Nat → Nat} {c c' : Nat} (hi : i < N) (hw : ∀ j, j ≠ i → w' j = w j)
    (h : w' i + 1 ≤ w i) (hc : c' ≤ c + 1) : 2 * sumOver N w' + c' < 2 * sumOver N w + c := by
  have := sumOver_lt hi hw h
  omega

theorem measure_deliver {N : Nat} {w w' : Nat → Nat} {c c' : Nat} (hw : ∀ j, w' j ≤ w j) (hc : c' + 1 = c) :
    2 * sumOver N w' + c' < 2 * sumOver N w + c := by
  have := sumOver_mono N hw
  omega

theorem mails_setMail {N : Nat} {s : Sys} {i : Nat} {r : Req} {rest : List Req} (hm : s.mail i = r :: rest) (hi : i < N) :
    mails N (setMail s i rest) < mails N s :=
  sumOver_lt hi (fun j hj => by simp [setMail, hj]) (by simp [setMail, hm])

theorem move_unitOf {a : Act} {i : Nat} {p p' : UPhase} {e : DEvent} (h : a.move = some (i, p, p', e)) : unitOf a = some i := by
  cases a <;> cases h <;> rfl

theorem move_rank {a : Act} {i : Nat} {p p' : UPhase} {e : DEvent} (h : a.move = some (i, p, p', e)) : rank p' + 1 ≤ rank p := by
  cases a <;> cases h <;> decide

/-- `K` with any weight `w i p` of unit `i` in phase `p` in place of `rank`; `K N` unfolds to `Kw N fun _ => rank`, which is how
    `weight_decreases` is applied to it -/
def Kw (N : Nat) (w : Nat → UPhase → Nat) (s : Sys) : Nat := 2 * sumOver N (fun i => w i (s.phase i)) + s.chan.length

theorem weight_decreases {N : Nat} {w : Nat → UPhase → Nat} {s s' : Sys} {a : Act} (hs : Step s a s')
    (hext : ∀ e, a ≠ .external e) (hN : ∀ i, unitOf a = some i → i < N)
    (hmove : ∀ i p p' e, a.move = some (i, p, p', e) → w i p' + 1 ≤ w i p)
    (hwake : ∀ i, w i .waitRetry + 1 ≤ w i .delay)
    (hanswer : ∀ e rest d' o i, s.chan = e :: rest → Dispatcher.step s.d e = .ok (d', o) → waiter e = some i →
      w i (if o.reply = .ack then .running else .gone) ≤ w i (s.phase i)) :
    Kw N w s' < Kw N w s ∨ (Kw N w s' = Kw N w s ∧ mails N s' < mails N s) := by
  have sends {i : Nat} {p' : UPhase} {e : DEvent} (hi : i < N) (h : w i p' + 1 ≤ w i (s.phase i)) :
      Kw N w (send (setPhase s i p') e) < Kw N w s := by
    refine measure_send (i := i) hi (fun j hj => ?_) ?_ ?_
    · show w j (if j = i then p' else s.phase j) = w j (s.phase j)
      rw [if_neg hj]
    · show w i (if i = i then p' else s.phase i) + 1 ≤ w i (s.phase i)
      rw [if_pos rfl]
      exact h
    · simp [send, setPhase]
  cases hs with
  | external => exact absurd rfl (hext _)
  | @move a i p p' e hm hp => exact Or.inl (sends (hN _ (move_unitOf hm)) (hp ▸ hmove i p p' e hm))
  | read hm hp => exact Or.inr ⟨rfl, mails_setMail hm (hN _ rfl)⟩
  -- the mailbox has no part in `Kw`
  | @wake i r rest hm hp hw => exact Or.inl (sends (hN _ rfl) (hp ▸ hwake i))
  | @deliver e rest d' o hch hd =>
    refine Or.inl (measure_deliver (fun j => ?_) ?_)
    · rw [answered_phase]
      split
      · exact hanswer e rest d' o j hch hd ‹_›
      · exact Nat.le_refl _
    · rw [(answered_chan_mail _ e o).1, hch]
      rfl

theorem step_decreases (N : Nat) (s s' : Sys) (h : Rel N s' s) :
    K N s' < K N s ∨ (K N s' = K N s ∧ mails N s' < mails N s) := by
  obtain ⟨hc, a, hext, hN, hs⟩ := h
  refine weight_decreases (w := fun _ => rank) (step_iff.mp hs) hext hN (fun i p p' e hm => move_rank hm) (fun _ => by decide)
    fun e rest d' o i _ hd _ => ?_
  -- whoever is answered is refused: gone, with rank 0
  rw [if_neg ((step_handled hd).refused hc)]
  exact Nat.zero_le _

theorem wf_of_lex {α : Type} {r : α → α → Prop} (f g : α → Nat)
    (h : ∀ a' a, r a' a → f a' < f a ∨ (f a' = f a ∧ g a' < g a)) : WellFounded r :=
  Subrelation.wf (r := InvImage (Prod.Lex (· < ·) (· < ·)) (fun a => (f a, g a))) (fun {a' a} hr => Prod.lex_def.mpr (h a' a hr))
    (InvImage.wf _ (Prod.lex Nat.lt_wfRel Nat.lt_wfRel).wf)

/-- **a run that is being cancelled cannot go on for ever**: the step relation of the dispatcher and `N` units, in states where
    the run is cancelled and without new signals, is well-founded -/
theorem cancelled_steps_wf (N : Nat) : WellFounded (Rel N) :=
  wf_of_lex (K N) (mails N) fun s' s h => step_decreases N s s' h

/-- … with an explicit bound on the steps that are not mere reads of a mailbox: at most `2·Σ rank + messages under way` -/
theorem cancelled_progress_bounded (N : Nat) (s s' : Sys) (h : Rel N s' s) : K N s' ≤ K N s :=
  (step_decreases N s s' h).elim Nat.le_of_lt fun h => Nat.le_of_eq h.1

/-- the rank with the retry budget `l` counted in.  Within one budget the phases fall in the order a unit goes through them
    after a failed attempt — `delay`, `waitRetry`, `running` — so that an acknowledged retry lowers it as well; a retried failure
    goes back up from `running` to `delay`, by 5, and pays one unit of budget, worth 10 -/
def rk (p : UPhase) (l : Nat) : Nat :=
  match p with
  | .notStarted => 10 * l + 6 | .waitStart => 10 * l + 5 | .running => 10 * l + 4
  | .delay => 10 * l + 9 | .waitRetry => 10 * l + 8 | .done => 0 | .gone => 0

def Kb (N : Nat) (b : BSys) : Nat := Kw N (fun i p => rk p (b.left i)) b.s

/-- one step of the dispatcher or of one of the `N` units (no new signal), from a state the system can be in -/
def BRel (N : Nat) (b' b : BSys) : Prop :=
  Inv b.s ∧ Inv2 b.s ∧ ∃ a, (∀ e, a ≠ .external e) ∧ (∀ i, unitOf a = some i → i < N) ∧ bstep b a = some b'

theorem bstep_cases {b b' : BSys} {a : Act} (h : bstep b a = some b') :
    step b.s a = some b'.s ∧ (((∀ i r sl, a ≠ .exitRetry i r sl) ∧ b'.left = b.left) ∨
      ∃ i r sl, a = .exitRetry i r sl ∧ 0 < b.left i ∧ b'.left = fun j => if j = i then b.left i - 1 else b.left j) := by
  unfold bstep at h
  split at h
  · split at h
    · obtain ⟨s', hs, rfl⟩ := Option.map_eq_some_iff.mp h
      exact ⟨hs, Or.inr ⟨_, _, _, rfl, ‹_›, rfl⟩⟩
    · cases h
  · obtain ⟨s', hs, rfl⟩ := Option.map_eq_some_iff.mp h
    exact ⟨hs, Or.inl ⟨‹_›, rfl⟩⟩

theorem bstep_decreases (N : Nat) (b b' : BSys) (h : BRel N b' b) :
    Kb N b' < Kb N b ∨ (Kb N b' = Kb N b ∧ mails N b'.s < mails N b.s) := by
  obtain ⟨h1, h2, a, hext, hN, hb⟩ := h
  obtain ⟨s', left'⟩ := b'
  obtain ⟨hs, ⟨hne, hl⟩ | ⟨i, r, sl, rfl, hpos, hl⟩⟩ := bstep_cases hb
  · -- the budgets are left alone: the phases' ranks within the budgets are a weight
    cases hl
    refine weight_decreases (w := fun i p => rk p (b.left i)) (step_iff.mp hs) hext hN (fun i p p' e hm => ?_) (fun i => by simp [rk])
      fun e rest d' o i hch _ hw => ?_
    · cases a with
      | exitRetry => exact absurd rfl (hne _ _ _)
      | _ => cases hm <;> simp [rk]
    -- the unit whose announcement is delivered was waiting for the reply
    rcases head_waiter h2 hch hw with hph | hph <;> rw [hph] <;> split <;> simp [rk]
  · -- a retried failure: only that unit's weight changes, up from `running` to `delay` by 5 and down by one unit of budget, worth 10
    cases hl
    cases step_iff.mp hs with
    | move hm hp =>
      cases hm
      refine Or.inl (measure_send (i := i) (hN i rfl) (fun j hj => ?_) ?_ (by simp [setPhase]))
      · simp [setPhase, hj]
      · simp only [setPhase, if_pos, hp, rk]
        omega

theorem all_steps_wf (N : Nat) : WellFounded (BRel N) :=
  wf_of_lex (Kb N) (fun b => mails N b.s) fun b' b h => bstep_decreases N b b' h

theorem unended_can_step (s : Sys) (h1 : Inv s) (h2 : Inv2 s) (i N : Nat) (hi : i < N)
    (hp : s.phase i ≠ .done ∧ s.phase i ≠ .gone) :
    ∃ a s', (∀ e, a ≠ .external e) ∧ (∀ j, unitOf a = some j → j < N) ∧ step s a = some s' ∧
      ∀ left, bstep ⟨s, left⟩ a = some ⟨s', left⟩ := by
  obtain ⟨a, ha, hen⟩ := progress_possible s h1 h2 i hp
  obtain ⟨s', hstep⟩ := Option.isSome_iff_exists.mp hen
  -- `progress_possible` offers four kinds of action: none is external or a retry, and the unit they name is `i`
  rcases ha with rfl | rfl | ⟨r, sl, rfl⟩ | ⟨x, y, rfl⟩
  all_goals
    refine ⟨_, s', ?_, fun j hj => ?_, hstep, fun left => ?_⟩
    · exact fun _ => nofun
    · cases hj <;> exact hi
    · simp [bstep, hstep]

theorem brun_is_run : ∀ (acts : List Act) (b b' : BSys), brunActs b acts = some b' → runActs b.s acts = some b'.s := by
  intro acts
  induction acts with
  | nil =>
    intro b b' h
    cases h
    rfl
  | cons a as ih =>
    intro b b' h
    simp only [brunActs] at h
    split at h
    · cases h
    · rename_i b1 hb1
      simp only [runActs, (bstep_cases hb1).1]
      exact ih b1 b' h

end NextestModel.System
