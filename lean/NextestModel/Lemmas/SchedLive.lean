/-
  Liveness of the scheduler model under per-group uniform weights (C02 `uncancelled_complete_partial`).

  future-queue 0.4.0 drains a group's queue only when a member of *that* group completes (defect F7).  When all members of
  a group have the same threads-required the completing member releases exactly the global weight the queue's head needs,
  so "queue g non-empty ⇒ some member of g is running" (`Live`) is an invariant, and the stream can only end with every queue
  empty.  `Live` is kept by every `Move`; `remove` breaks it for the group of the future taken out (`LiveBut`), and the first
  turn of `drainGroup` mends it.

  Beside it, conservation: the items a move starts are taken from the waiting ones (stream and queues) and none is lost
  (`move_waiting`), whence the run-level statement `runTrace_live`.
-/
import NextestModel.Lemmas.Sched
namespace NextestModel.SchedLive
open NextestModel.Sched NextestModel.C08

def Uniform (wg : Nat → Nat) (it : Item) : Prop := ∀ g, it.group = some g → it.weight = wg g

def HasMember (s : SState) (g : Nat) : Prop := ∃ r ∈ s.running, r.item.group = some g

def Live (s : SState) : Prop := ∀ g, s.queues.getD g [] ≠ [] → HasMember s g

/-- `Live` with group `g₀` let off: its queue may lack a running member if every item in it has room under the global limit —
    the state between `remove` and the first turn of `drainGroup` -/
def LiveBut (g₀ : Option Nat) (s : SState) : Prop := ∀ g, s.queues.getD g [] ≠ [] →
  HasMember s g ∨ g₀ = some g ∧ ∀ it ∈ s.queues.getD g [], hasSpace s.cur s.maxW it.weight = true

/-- the part of `Inv` that `remove` keeps (it breaks `Live`).
    `qlen`: every configured group has a queue — parking is a `setAt`, which outside the list would drop the item
    (`move_waiting`) -/
structure Safe (wg : Nat → Nat) (s : SState) : Prop where
  glob : GlobalOk s
  grp : GroupInv s
  qlen : s.queues.length = s.groupMax.length
  uni : AllItems (Uniform wg) s

theorem Safe.move {wg : Nat → Nat} {s t : SState} {a : List Item} (h : Safe wg s) (m : Move s a t) : Safe wg t :=
  ⟨h.glob.move m, h.grp.move m, by rw [m.consts.2.1, m.consts.2.2]; exact h.qlen, h.uni.move m⟩

theorem Safe.remove {wg : Nat → Nat} {s : SState} {id : Nat} {r : Running} (h : Safe wg s)
    (hf : s.running.find? (fun r => r.item.id == id) = some r) : Safe wg (s.remove id r) :=
  ⟨h.glob.remove hf, h.grp.remove hf, h.qlen, h.uni.remove id r⟩

theorem member_of_gcur_pos {s : SState} {g : Nat} (h : GroupOk s) (hp : 0 < s.gcur.getD g 0) : HasMember s g := by
  rw [(h.2 g).1, gsum, List.sum_pos_iff_exists_pos_nat] at hp
  obtain ⟨_, hx, hpos⟩ := hp
  obtain ⟨r, hr, rfl⟩ := List.mem_map.mp hx
  refine ⟨r, hr, ?_⟩
  unfold grw at hpos
  split at hpos
  · assumption
  · omega

theorem HasMember.start {s : SState} {g : Nat} (it : Item) (h : HasMember s g) : HasMember (s.start it).1 g := by
  obtain ⟨r, hr, hg⟩ := h
  exact ⟨r, by rw [start_running]; exact List.mem_append_left _ hr, hg⟩

theorem hasMember_start_self (s : SState) {it : Item} {g : Nat} (hg : it.group = some g) : HasMember (s.start it).1 g :=
  ⟨(s.start it).2, by rw [start_running]; simp, by rw [start_item]; exact hg⟩

theorem LiveBut.unpark {s : SState} {g₀ : Option Nat} {g : Nat} {it : Item} {rest : List Item}
    (h : LiveBut g₀ s) (hs : QueuesOk s) (hq : s.queues.getD g [] = it :: rest) (hg₀ : ∀ g', g₀ = some g' → g' = g) :
    Live ({ s with queues := setAt s.queues g rest }.start it).1 := by
  intro g' hne
  rw [start_queues] at hne
  by_cases hgg : g = g'
  · subst hgg
    exact hasMember_start_self _ (hs.popQueue hq).2
  · simp only [getD_setAt, hgg, false_and, if_false] at hne
    rcases h g' hne with hm | ⟨he, _⟩
    · exact HasMember.start (s := { s with queues := setAt s.queues g rest }) it hm
    · exact absurd (hg₀ g' he).symm hgg

theorem Live.move {s t : SState} {a : List Item} (h : Live s) (hs : GroupInv s) (m : Move s a t) : Live t := by
  cases m with
  | @launch it rest =>
    intro g hne
    rw [start_queues] at hne
    exact HasMember.start (s := { s with pending := rest }) it (h g hne)
  | @park it rest g _ _ hn =>
    intro g' hne
    by_cases hgg : g = g'
    · subst hgg
      exact member_of_gcur_pos hs.ok (pos_of_hasSpace_false hn)
    · simp only [getD_setAt, hgg, false_and, if_false] at hne
      exact h g' hne
  | unpark hq _ => exact LiveBut.unpark (g₀ := none) (fun g hne => .inl (h g hne)) hs.queues hq (fun _ e => nomatch e)

structure Inv (wg : Nat → Nat) (s : SState) : Prop extends Safe wg s where
  live : Live s

theorem Inv.moves {wg : Nat → Nat} {s t : SState} {a : List Item} (h : Inv wg s) (m : Moves s a t) : Inv wg t :=
  m.preserves (fun h m => ⟨h.toSafe.move m, h.live.move h.grp m⟩) h

/-- taking a future out leaves its group, if it was the last running member, with room under the global limit for any of its
    parked items: by uniformity each needs exactly what was released -/
theorem Inv.liveBut_remove {wg : Nat → Nat} {s : SState} {id : Nat} {r : Running} (h : Inv wg s)
    (hf : s.running.find? (fun r => r.item.id == id) = some r) : LiveBut r.item.group (s.remove id r) := by
  intro g hne
  rw [remove_queues] at hne ⊢
  obtain ⟨x, hx, hxg⟩ := h.live g hne
  by_cases hxr : x = r
  · subst hxr
    refine .inr ⟨hxg, fun it hit => ?_⟩
    have hw : it.weight = x.item.weight := by
      rw [h.uni.queued g it hit g (h.grp.queues g it hit), h.uni.running x hx g hxg]
    rw [remove_maxW, remove_cur, hw]
    exact hasSpace_sub h.glob.2 _
  · refine .inl ⟨x, ?_, hxg⟩
    rw [remove_running]
    exact (List.mem_cons.mp ((perm_cons_eraseP hf).mem_iff.mp hx)).resolve_left hxr

/-- `drainGroup g` on the state a member of `g` was taken out of: its first turn finds the queue empty, or gives `g` a running
    member again, or stops at a head that does not fit — which it does: under the global limit by `LiveBut`, and in its group
    because a group without running member holds no weight -/
theorem drain_live {wg : Nat → Nat} {s : SState} {g : Nat} (fuel : Nat) (hs : Safe wg s) (hl : LiveBut (some g) s) :
    Inv wg (s.drainGroup g (fuel + 1)).1 := by
  rcases drain_succ s g fuel with ⟨h0, hstop⟩ | ⟨it, rest, t, hq, hf, rfl, h1, _⟩
  · rw [h0]
    refine ⟨hs, fun g' hne => (hl g' hne).elim id fun ⟨he, hroom⟩ => ?_⟩
    cases he
    rcases Nat.eq_zero_or_pos (s.gcur.getD g 0) with hz | hpos
    · cases hq : s.queues.getD g [] with
      | nil => exact absurd hq hne
      | cons it rest =>
        refine absurd ⟨hroom it (by rw [hq]; exact List.mem_cons_self ..), fun _ e => ?_⟩ (hstop it rest hq)
        cases e
        rw [hz]
        exact hasSpace_zero _ _
    · exact member_of_gcur_pos hs.grp.ok hpos
  · rw [h1]
    exact Inv.moves ⟨hs.move (.unpark hq hf), hl.unpark hs.grp.queues hq fun _ e => (Option.some.inj e).symm⟩ (drain_moves g fuel _)

theorem drainAfter_live {wg : Nat → Nat} {t : SState} {r : Running} (hs : Safe wg t) (hl : LiveBut r.item.group t)
    (hr : r.item.group.isSome → r.groupSlot.isSome) : Inv wg (t.drainAfter r).1 := by
  unfold SState.drainAfter
  cases hg : r.item.group with
  | none =>
    rw [hg] at hl
    exact ⟨hs, fun g hne => (hl g hne).resolve_right fun e => nomatch e.1⟩
  | some g =>
    rw [hg] at hl hr
    obtain ⟨_, hsl⟩ := Option.isSome_iff_exists.mp (hr rfl)
    rw [hsl]
    exact drain_live _ hs hl

/-- `pull` stops at a head that does not fit under the global limit, which it would if nothing were running -/
theorem first_live {wg : Nat → Nat} {s : SState} (h : Inv wg s) :
    Inv wg s.first.1 ∧ (s.first.1.running = [] → s.first.1.pending = []) := by
  unfold SState.first
  have hi := h.moves (pull_moves (s.pending.length + 1) s)
  refine ⟨hi, fun hrun => ?_⟩
  cases hp : (s.pull (s.pending.length + 1)).1.pending with
  | nil => rfl
  | cons it rest =>
    have hfull := pull_stops _ s (Nat.lt_succ_self _) it rest hp
    rw [hi.glob.1, wsum, hrun, List.map_nil, List.sum_nil, hasSpace_zero] at hfull
    cases hfull

theorem step_live {wg : Nat → Nat} {s s' : SState} {op : Op} {st : List Running}
    (h : Inv wg s) (hstep : s.step op = some (s', st)) : Inv wg s' ∧ (s'.running = [] → s'.pending = []) := by
  obtain ⟨d, hd, rfl, rfl⟩ := step_some hstep
  refine first_live ?_
  rcases hd with rfl | ⟨id, r, hf, rfl⟩
  · exact h
  · exact drainAfter_live (h.toSafe.remove hf) (h.liveBut_remove hf) fun hs => h.grp.running r (List.mem_of_find?_eq_some hf) ▸ hs

def waiting (s : SState) : List Item := s.pending ++ s.queues.flatten

theorem flatten_set_append {α} {qs : List (List α)} {g : Nat} (x : α) (h : g < qs.length) :
    ((qs.set g (qs.getD g [] ++ [x])).flatten).Perm (x :: qs.flatten) := by
  induction qs generalizing g with
  | nil => cases h
  | cons q qs ih =>
    cases g with
    | zero =>
      simp only [List.set_cons_zero, List.flatten_cons, List.getD_cons_zero, List.append_assoc, List.singleton_append]
      exact List.perm_middle
    | succ g =>
      simp only [List.set_cons_succ, List.flatten_cons, List.getD_cons_succ]
      exact (List.Perm.append_left q (ih (Nat.lt_of_succ_lt_succ h))).trans List.perm_middle

theorem flatten_set_pop {α} {qs : List (List α)} {g : Nat} {x : α} {rest : List α} (h : qs.getD g [] = x :: rest) :
    (x :: (qs.set g rest).flatten).Perm qs.flatten := by
  induction qs generalizing g with
  | nil => cases h
  | cons q qs ih =>
    cases g with
    | zero =>
      simp only [List.getD_cons_zero] at h
      subst h
      simp
    | succ g =>
      simp only [List.getD_cons_succ] at h
      simp only [List.set_cons_succ, List.flatten_cons]
      exact List.perm_middle.symm.trans (List.Perm.append_left q (ih h))

theorem move_waiting {wg : Nat → Nat} {s t : SState} {a : List Item} (hs : Safe wg s) (m : Move s a t) :
    (a ++ waiting t).Perm (waiting s) := by
  cases m with
  | launch hp => simp [waiting, hp]
  | @park it rest g hp _ hn =>
    -- parking happens only in a configured group: no room means weight accounted, which an unconfigured group never has
    have hl : g < s.queues.length := by
      rw [hs.qlen, ← hs.grp.ok.1]
      exact Nat.lt_of_not_le fun hl => Nat.ne_of_gt (pos_of_hasSpace_false hn) (getD_eq_default _ _ _ hl)
    simp only [waiting, hp, setAt, List.nil_append, List.cons_append]
    exact (List.Perm.append_left rest (flatten_set_append it hl)).trans List.perm_middle
  | @unpark g it rest hq =>
    simp only [waiting, start_pending, start_queues, setAt, List.singleton_append]
    exact List.perm_middle.symm.trans (List.Perm.append_left s.pending (flatten_set_pop hq))

theorem moves_waiting {wg : Nat → Nat} {s t : SState} {a : List Item} (m : Moves s a t) (hs : Safe wg s) :
    (a ++ waiting t).Perm (waiting s) := by
  induction m with
  | nil => exact .refl _
  | cons m _ ih =>
    rw [List.append_assoc]
    exact ((ih (hs.move m)).append_left _).trans (move_waiting hs m)

theorem step_waiting {wg : Nat → Nat} {s s' : SState} {op : Op} {st : List Running}
    (h : Safe wg s) (hstep : s.step op = some (s', st)) : (st.map (·.item) ++ waiting s').Perm (waiting s) := by
  obtain ⟨t, ht, hm⟩ := step_moves hstep
  rcases ht with rfl | ⟨id, r, hf, rfl⟩
  · exact moves_waiting hm h
  · -- `remove` touches neither the stream nor the queues: `waiting (s.remove id r)` is `waiting s` by definition — which
    -- `exact this` sees; elaborated against the goal, `moves_waiting` would be asked for moves from `s`
    have := moves_waiting hm (h.remove hf)
    exact this

/-- run a list of operations, collecting the items whose futures were created, in creation order -/
def runTrace (s : SState) : List Op → Option (SState × List Item)
  | [] => some (s, [])
  | o :: os => match s.step o with
    | none => none
    | some (s', st) => match runTrace s' os with
      | none => none
      | some (s'', more) => some (s'', st.map (·.item) ++ more)

/-- "idle only if the stream is exhausted" is what the refill at the end of an operation establishes, so it holds after a run
    of at least one operation, or if it held before -/
theorem runTrace_live (wg : Nat → Nat) (ops : List Op) (s s' : SState) (started : List Item)
    (h : Inv wg s) (hr : runTrace s ops = some (s', started)) :
    Inv wg s' ∧ (started ++ waiting s').Perm (waiting s) ∧
    (ops ≠ [] ∨ (s.running = [] → s.pending = []) → s'.running = [] → s'.pending = []) := by
  induction ops generalizing s started with
  | nil =>
    cases hr
    exact ⟨h, by simp, fun hn => hn.elim (fun hn => absurd rfl hn) id⟩
  | cons o os ih =>
    simp only [runTrace] at hr
    split at hr
    · cases hr
    · rename_i s1 st hstep
      split at hr
      · cases hr
      · rename_i more hrest
        cases hr
        obtain ⟨j1, j3⟩ := step_live h hstep
        obtain ⟨k1, k2, k3⟩ := ih s1 more j1 hrest
        refine ⟨k1, ?_, fun _ => k3 (.inr j3)⟩
        rw [List.append_assoc]
        exact (List.Perm.append_left _ k2).trans (step_waiting h.toSafe hstep)

theorem queues_empty_of_idle {s : SState} (h : Live s) (hr : s.running = []) : s.queues.flatten = [] := by
  rw [List.flatten_eq_nil_iff]
  intro q hq
  obtain ⟨g, hg, rfl⟩ := List.getElem_of_mem hq
  apply Classical.byContradiction
  intro hne
  obtain ⟨r, hrm, _⟩ := h g (List.getElem_eq_getD [] ▸ hne)
  rw [hr] at hrm
  cases hrm

theorem queued_eq (s : SState) : s.queued = s.queues.flatten.length := by
  simp [SState.queued, List.length_flatten]

theorem inv_init (maxW : Nat) (gm : List Nat) {items : List Item} (wg : Nat → Nat) (hu : ∀ it ∈ items, Uniform wg it) :
    Inv wg (SState.init maxW gm items) :=
  ⟨⟨globalOk_init maxW gm items, groupInv_init maxW gm items, by simp [SState.init], .init maxW gm hu⟩,
   fun g hne => absurd (init_queue maxW gm items g) hne⟩

theorem waiting_init (maxW : Nat) (gm : List Nat) (items : List Item) : waiting (SState.init maxW gm items) = items := by
  rw [waiting, SState.init, List.map_const', List.flatten_replicate_nil, List.append_nil]

end NextestModel.SchedLive
