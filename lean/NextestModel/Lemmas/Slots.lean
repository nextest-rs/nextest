/-
  The slot allocator (`SlotReservations`) against the list of slots currently held: its invariant says that holders and free
  list together are the numbers below `next`, each once (`slotsInv_iff`), so reserving and releasing move one number between two
  lists.
-/
import NextestModel.Model.Sched
namespace NextestModel.C14
open NextestModel.Sched

/-- `held` = the slots of the futures alive right now.  The allocator's invariant: held slots are
    pairwise distinct, the free list has no duplicates, held and free are disjoint, and together
    they are exactly the numbers below `next`. -/
def SlotsInv (held : List Nat) (s : Slots) : Prop :=
  held.Nodup ∧ s.free.Nodup ∧ (∀ x ∈ held, x < s.next ∧ x ∉ s.free) ∧ (∀ x ∈ s.free, x < s.next) ∧
  (∀ x, x < s.next → x ∈ held ∨ x ∈ s.free)

theorem slots_init : SlotsInv [] {} := by
  simp [SlotsInv]

theorem listMin_eq_min? : ∀ l : List Nat, listMin l = l.min?
  | [] => rfl
  | x :: xs => by
    rw [listMin, listMin_eq_min? xs, List.min?_cons]
    cases xs.min? with
    | none => rfl
    | some m => simp only [Option.elim_some, Nat.min_def]

theorem slotsInv_iff (held : List Nat) (s : Slots) : SlotsInv held s ↔ (held ++ s.free).Perm (List.range s.next) := by
  constructor
  · intro ⟨h1, h2, h3, h4, h5⟩
    refine (List.perm_ext_iff_of_nodup (List.nodup_append.mpr ⟨h1, h2, fun a ha b hb e => (h3 a ha).2 (e ▸ hb)⟩)
      List.nodup_range).mpr fun a => ?_
    rw [List.mem_append, List.mem_range]
    exact ⟨fun h => h.elim (fun h => (h3 a h).1) (h4 a), h5 a⟩
  · intro hp
    obtain ⟨n1, n2, n3⟩ := List.nodup_append.mp (hp.nodup_iff.mpr List.nodup_range)
    have hm : ∀ a, a ∈ held ∨ a ∈ s.free ↔ a < s.next := fun a => by
      rw [← List.mem_append, hp.mem_iff, List.mem_range]
    exact ⟨n1, n2, fun x hx => ⟨(hm x).mp (.inl hx), fun hf => n3 x hx x hf rfl⟩, fun x hx => (hm x).mp (.inr hx),
      fun x hx => (hm x).mpr hx⟩

theorem SlotsInv.perm {held held' : List Nat} {s : Slots} (h : SlotsInv held s) (hp : held'.Perm held) : SlotsInv held' s := by
  rw [slotsInv_iff] at h ⊢
  exact (hp.append_right _).trans h

/-- the new holder is listed last, as `start` appends the new future -/
theorem SlotsInv.reserve {held : List Nat} {s : Slots} (h : SlotsInv held s) :
    s.reserve.1 ∉ held ∧ (∀ y, y < s.reserve.1 → y ∈ held) ∧ SlotsInv (held ++ [s.reserve.1]) s.reserve.2 := by
  have hp := (slotsInv_iff held s).mp h
  obtain ⟨_, _, h3, h4, h5⟩ := h
  simp only [Slots.reserve, listMin_eq_min?]
  cases hm : s.free.min? with
  | some m =>
    simp only
    obtain ⟨hmem, hmin⟩ := List.min?_eq_some_iff.mp hm
    refine ⟨fun hx => (h3 m hx).2 hmem, fun y hy => ?_, (slotsInv_iff _ _).mpr ?_⟩
    · exact (h5 y (Nat.lt_trans hy (h4 m hmem))).resolve_right fun hf => Nat.not_le_of_lt hy (hmin y hf)
    · -- `m` moves from the free list to the holders
      rw [List.append_assoc]
      exact ((List.perm_cons_erase hmem).symm.append_left held).trans hp
  | none =>
    simp only
    have hnil := List.min?_eq_none_iff.mp hm
    refine ⟨fun hx => Nat.lt_irrefl _ (h3 _ hx).1, fun y hy => (h5 y hy).resolve_right (hnil ▸ List.not_mem_nil),
      (slotsInv_iff _ _).mpr ?_⟩
    rw [hnil, List.append_nil] at hp
    simp only [hnil, List.append_nil, List.range_succ]
    exact hp.append_right _

theorem SlotsInv.release {held held' : List Nat} {s : Slots} {x : Nat} (h : SlotsInv held s) (hp : held.Perm (x :: held')) :
    SlotsInv held' (s.release x) := by
  rw [slotsInv_iff] at h ⊢
  exact (List.perm_middle.trans (hp.symm.append_right s.free)).trans h

theorem SlotsInv.reserve_le {held : List Nat} {s : Slots} (h : SlotsInv held s) : s.reserve.1 ≤ held.length := by
  -- pigeonhole: every number below the new slot is held
  have := List.nodup_range.length_le_of_subset fun y hy => h.reserve.2.1 y (List.mem_range.mp hy)
  rwa [List.length_range] at this

end NextestModel.C14
