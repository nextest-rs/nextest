/-
  What one run of a parser function does to the state: one lemma per function of the model parser (`run_…`), built from a
  few primitive steps, from which "no expression ⇒ an error", "no error ⇒ a well-formed expression" and "every error span
  lies inside the input" follow for the whole parse (C20).
-/
import NextestModel.Lemmas.ParserCases
namespace NextestModel.Syntax

/-- the error list did not shrink; and if `bad` then it grew -/
def G (bad : Prop) (st st' : St) : Prop := st.errs.length ≤ st'.errs.length ∧ (bad → st.errs.length < st'.errs.length)

theorem G.trans_or {p q : Prop} {a b c : St} (h1 : G p a b) (h2 : G q b c) : G (p ∨ q) a c :=
  ⟨Nat.le_trans h1.1 h2.1, fun x => x.elim (fun hp => Nat.lt_of_lt_of_le (h1.2 hp) h2.1) (fun hq => Nat.lt_of_le_of_lt h1.1 (h2.2 hq))⟩

def Inside (cx : Ctx) (s : St) : Prop := ∀ e ∈ s.errs, e.off + e.len ≤ cx.total

/-- A run from `s` to `s'`: the error list does not get shorter, and gets longer unless the run was `good`; the unread rest does not grow;
    the spans recorded on the way lie inside the input if `s` does.  `good` will say that the result is present and
    well-formed, so a run that records nothing is a run with such a result. -/
structure Run (cx : Ctx) (good : Prop) (s s' : St) : Prop where
  errs : G (¬ good) s s'
  rest : utf8Len s'.rest ≤ utf8Len s.rest
  inside : utf8Len s.rest ≤ cx.total → Inside cx s → Inside cx s'

variable {cx : Ctx} {p q : Prop} {a b c s s' : St}

theorem Run.mono (h : Run cx p a b) (hq : p → q) : Run cx q a b :=
  ⟨⟨h.errs.1, fun x => h.errs.2 (mt hq x)⟩, h.rest, h.inside⟩

theorem Run.trans (h1 : Run cx p a b) (h2 : Run cx q b c) : Run cx (p ∧ q) a c :=
  ⟨⟨(h1.errs.trans_or h2.errs).1, fun x => (h1.errs.trans_or h2.errs).2 (Classical.not_and_iff_not_or_not.mp x)⟩,
   Nat.le_trans h2.rest h1.rest, fun ha hi => h2.inside (Nat.le_trans h1.rest ha) (h1.inside ha hi)⟩

theorem Run.silent (he : s'.errs = s.errs) (hr : utf8Len s'.rest ≤ utf8Len s.rest) : Run cx True s s' :=
  ⟨⟨by rw [he]; exact Nat.le_refl _, fun h => absurd trivial h⟩, hr, fun _ hi => by rw [Inside, he]; exact hi⟩

theorem Run.refl : Run cx True s s := .silent rfl (Nat.le_refl _)
theorem Run.advance {r : List Char} (hr : utf8Len r ≤ utf8Len s.rest) : Run cx True s (s.withRest r) := .silent rfl hr

/-- A chain is as good as any one of its steps.  `seqRight`, `seqLeft` keep the goodness of the step that makes the result (as
    `*>`, `<*` keep one parser's result) and forget that of blanks, delimiters and recovery; a step that reports is as good as
    one likes.  So a conjunction arises only where `trans` joins two results. -/
theorem Run.seqRight (h1 : Run cx p a b) (h2 : Run cx q b c) : Run cx q a c := (h1.trans h2).mono And.right
theorem Run.seqLeft (h1 : Run cx p a b) (h2 : Run cx q b c) : Run cx p a c := (h1.trans h2).mono And.left

theorem Run.report {k : ErrKind} {off len : Nat} (he : s'.errs = s.errs) (hr : utf8Len s'.rest ≤ utf8Len s.rest)
    (hb : utf8Len s.rest ≤ cx.total → off + len ≤ cx.total) : Run cx p s (s'.report k off len) := by
  refine ⟨⟨by simp [ExprRT.report_errs, he], fun _ => by simp [ExprRT.report_errs, he]⟩, hr, fun ha hi e hm => ?_⟩
  simp only [ExprRT.report_errs, he, List.mem_append, List.mem_singleton] at hm
  rcases hm with hm | rfl
  · exact hi e hm
  · exact hb ha

theorem pos_le (cx : Ctx) (s : St) : pos cx s ≤ cx.total := Nat.sub_le _ _
theorem pos_add (h : utf8Len s.rest ≤ cx.total) : pos cx s + utf8Len s.rest = cx.total := Nat.sub_add_cancel h
theorem span_le (cx : Ctx) (a b : St) : pos cx a + (pos cx b - pos cx a) ≤ cx.total := by
  rw [Nat.add_comm, Nat.sub_add_eq_max]; exact Nat.max_le.mpr ⟨pos_le cx b, pos_le cx a⟩

theorem Run.reportHere {k : ErrKind} {len : Nat} (hl : len ≤ utf8Len s.rest) : Run cx p s (s.report k (pos cx s) len) :=
  .report rfl (Nat.le_refl _) fun ha => pos_add ha ▸ Nat.add_le_add_left hl _

def Yields {α : Type} (R : α → Prop) (o : Option α) : Prop := ∃ x, o = some x ∧ R x

theorem Yields.map {α β : Type} {R : α → Prop} {R' : β → Prop} {o : Option α} {f : α → β} (h : Yields R o) (hf : ∀ x, R x → R' (f x)) :
    Yields R' (o.map f) := by
  obtain ⟨x, rfl, hx⟩ := h; exact ⟨f x, rfl, hf x hx⟩

abbrev RunR {α : Type} (cx : Ctx) (R : α → Prop) (s : St) (r : Option α × St) : Prop := Run cx (Yields R r.1) s r.2

theorem run_skipWs (st : St) : Run cx True st (st.withRest (skipWs st.rest)) := .advance (skipWs_le _)

theorem run_expectChar (cx : Ctx) (c : Char) (k : ErrKind) (st : St) : Run cx True st (expectChar cx c k st) := by
  unfold expectChar
  split
  · split
    · exact .advance (Nat.le_trans (utf8Len_le_of_cons ‹_›) (skipWs_le _))
    · exact .reportHere (Nat.zero_le _)
  · exact .reportHere (Nat.zero_le _)

/-- (good: the loop gives up its accumulator only where it reports) -/
theorem run_parseStringLoop (cx : Ctx) (f : Nat) (acc : Option (List Char)) (st : St) :
    Run cx ((parseStringLoop cx f acc st).1 = none → acc = none) st (parseStringLoop cx f acc st).2 := by
  fun_induction parseStringLoop cx f acc st with
  | case1 | case2 | case5 => exact Run.refl.mono fun _ h => h  -- no fuel, end of input, `,` or `)`: the loop stops
  | case3 f acc st cs hr c rest' he ih =>  -- a valid escape
    exact ((Run.advance (Nat.le_trans (parseEscapeBody_le he) (utf8Len_le_of_cons hr))).seqRight ih).mono
      fun h hn => by simpa using h hn
  | case4 f acc st cs hr he st1 st2 ih =>  -- an invalid escape
    -- the backslash is consumed, so the span starts one byte before the position and is clamped to what remains
    refine (Run.report (s := st) (s' := st1) rfl (utf8Len_le_of_cons hr) fun ha => ?_).seqLeft ih
    rw [hr, utf8Len_cons] at ha
    show cx.total - utf8Len cs - 1 + min (utf8Len cs) 2 ≤ _; omega
  | case6 f acc st c cs _ hr _ l rest' ht ih =>  -- a run of plain characters
    have hle := takeTill_le isStringStop (c :: cs)
    rw [ht, ← hr] at hle
    exact ((Run.advance hle).seqRight ih).mono fun h hn => by simpa using h hn

theorem run_parseString (cx : Ctx) (st : St) : Run cx ((parseString cx st).1 ≠ none) st (parseString cx st).2 :=
  (run_parseStringLoop cx _ (some []) st).mono fun h hn => nomatch h hn

theorem run_parseMatcherText (cx : Ctx) (st : St) : RunR cx (· ≠ []) st (parseMatcherText cx st) := by
  have i := run_parseString cx st
  unfold parseMatcherText
  generalize parseString cx st = p at i
  match p with
  | (some [], st') => exact i.seqRight (.reportHere (Nat.zero_le _))
  | (some (c :: cs), st') => exact i.mono fun _ => ⟨_, rfl, List.cons_ne_nil _ _⟩
  | (none, st') => exact i.mono fun h => absurd rfl h

/-- what a parse that recorded no error produces, for a predicate whose default matcher is `dm`: a non-empty value, the
    implicit form only for `dm`, a regex text that does not end in a backslash, texts the validity oracle did not reject -/
def MatcherOut (cx : Ctx) (dm : DefaultMatcher) : Matcher → Prop
  | .equal v imp => v ≠ [] ∧ (imp = true → dm = .equal)
  | .contains v imp => v ≠ [] ∧ (imp = true → dm = .contains)
  | .glob v imp => v ≠ [] ∧ (imp = true → dm = .glob) ∧ lookup cx.globValid v ≠ some false
  | .regex v => endsWithBackslash v = false ∧ lookup cx.regexValid v ≠ some false

def SetsOut (cx : Ctx) : PExpr → Prop
  | .set s => ExprRT.SetOk (MatcherOut cx) s
  | .not _ e => SetsOut cx e
  | .parens e => SetsOut cx e
  | .union _ a b => SetsOut cx a ∧ SetsOut cx b
  | .inter _ a b => SetsOut cx a ∧ SetsOut cx b
  | .diff a b => SetsOut cx a ∧ SetsOut cx b

theorem run_parseRegex (cx : Ctx) (dm : DefaultMatcher) (st : St) : RunR cx (MatcherOut cx dm) st (parseRegex cx st) := by
  have hlen := unescapeRegex_len st.rest
  unfold parseRegex
  rw [regexLoop_eq _ [] st.rest (Nat.lt_succ_self _), List.nil_append]
  generalize htext : (unescapeRegex st.rest).1 = text at hlen
  generalize hrest : (unescapeRegex st.rest).2 = rest' at hlen
  have hr : utf8Len ((st.withRest rest').valid cx true text).2.rest ≤ utf8Len st.rest := by
    rw [valid_rest]; exact Nat.le_trans (Nat.le_add_left _ _) hlen
  have he := valid_errs (st.withRest rest') cx true text
  simp only [RunR]
  split
  · rename_i r
    split
    · rename_i hok
      refine (Run.silent (s := st) he hr).mono fun _ => ⟨_, rfl, ?_, valid_true hok⟩
      cases hb : endsWithBackslash text with
      | false => rfl
      | true =>
        -- a text ending in a backslash is read only up to the end of the input, not up to a closing delimiter
        rw [← htext] at hb
        rw [unescapeRegex_backslash st.rest hb] at hrest
        cases hrest
    · split
      · -- the span `regex-syntax` blames lies inside the text, which lies between the delimiters
        rename_i a b hl
        have := lookupSpan_some hl
        refine .report (s := st) he hr fun ha => ?_
        have := pos_add ha; omega
      · exact .report (s := st) he hr fun _ => span_le cx st _
  · exact (Run.advance (takeTill_le _ _)).seqRight (.reportHere (Nat.zero_le _))

theorem run_parseGlobM (cx : Ctx) (imp : Bool) (dm : DefaultMatcher) (hdm : imp = true → dm = .glob) (st : St) :
    RunR cx (MatcherOut cx dm) st (parseGlobM cx imp st) := by
  have i := run_parseMatcherText cx st
  unfold parseGlobM
  generalize parseMatcherText cx st = p at i
  obtain ⟨res, st1⟩ := p
  simp only [RunR]
  split
  · exact i.mono fun ⟨_, h, _⟩ => nomatch h
  · rename_i v
    have he := valid_errs st1 cx false v
    have hr := Nat.le_of_eq (congrArg utf8Len (valid_rest st1 cx false v))
    split
    · rename_i hok
      exact (i.seqLeft (.silent he hr)).mono fun ⟨_, hv, hne⟩ =>
        ⟨_, rfl, by cases hv; exact hne, hdm, valid_true hok⟩
    · exact i.seqRight (.report he hr fun _ => span_le cx st _)

theorem run_setMatcher (cx : Ctx) (dm : DefaultMatcher) (st : St) : RunR cx (MatcherOut cx dm) st (setMatcher cx dm st) := by
  unfold setMatcher
  simp only [RunR]
  refine (run_skipWs st).seqRight ?_
  split
  · rename_i cs hcs  -- `/`: a regex, then the closing `/` if it is there
    refine (Run.advance (utf8Len_le_of_cons hcs)).seqRight ((run_parseRegex cx dm _).seqLeft (q := True) ?_)
    split
    · exact .advance (Nat.le_trans (utf8Len_le_of_cons ‹_›) (skipWs_le _))
    · exact .refl
  · rename_i cs hcs  -- `#`
    exact (Run.advance (utf8Len_le_of_cons hcs)).seqRight (run_parseGlobM cx false dm nofun _)
  · rename_i cs hcs  -- `=`
    exact ((Run.advance (utf8Len_le_of_cons hcs)).seqRight (run_parseMatcherText cx _)).mono fun h => h.map fun _ hv => ⟨hv, nofun⟩
  · rename_i cs hcs  -- `~`
    exact ((Run.advance (utf8Len_le_of_cons hcs)).seqRight (run_parseMatcherText cx _)).mono fun h => h.map fun _ hv => ⟨hv, nofun⟩
  · split  -- none of these: the predicate's default matcher
    · exact (run_parseMatcherText cx _).mono fun h => h.map fun _ hv => ⟨hv, fun _ => rfl⟩
    · exact (run_parseMatcherText cx _).mono fun h => h.map fun _ hv => ⟨hv, fun _ => rfl⟩
    · exact run_parseGlobM cx true .glob (fun _ => rfl) _

theorem run_recoverComma (cx : Ctx) (st : St) : Run cx True st (recoverComma cx st) := by
  unfold recoverComma
  split
  · exact (Run.reportHere (p := True) (Nat.zero_le _)).seqRight (.advance (takeTill_le (· == ')') st.rest))
  · exact .refl

theorem run_unaryBody (cx : Ctx) (dm : DefaultMatcher) (p : Pred) (st : St) :
    RunR cx (fun s => ∃ m sp, s = .unary p m sp ∧ MatcherOut cx dm m) st (unaryBody cx dm p st) := by
  unfold unaryBody
  exact ((run_expectChar ..).seqRight ((run_setMatcher ..).seqLeft ((run_recoverComma ..).seqRight (run_expectChar ..)))).mono
    fun h => h.map fun m hm => ⟨m, _, rfl, hm⟩

theorem run_platformBody (cx : Ctx) (st : St) : RunR cx (fun s => ∃ pl sp, s = .platform pl sp) st (platformBody cx st) := by
  have h := (run_expectChar cx '(' .expectedOpenParen st).seqRight ((run_skipWs _).seqRight
    ((run_parseMatcherText cx _).seqLeft ((run_recoverComma cx _).seqRight (run_expectChar cx ')' .expectedCloseParen _))))
  unfold platformBody
  simp only [RunR]
  -- `simp only` after each `split`: the projections of pairs that `split` leaves in the goal make `exact` slow to unify
  split
  · simp only
    exact h.mono fun ⟨_, hv, _⟩ => nomatch hv.symm.trans ‹_ = none›
  · split
    · simp only
      exact h.mono fun _ => ⟨_, rfl, _, _, rfl⟩
    · split
      · simp only
        exact h.mono fun _ => ⟨_, rfl, _, _, rfl⟩
      · simp only
        exact h.seqRight (.report rfl (Nat.le_refl _) fun _ => span_le cx _ _)

theorem run_nullaryBody (cx : Ctx) (start : Nat) (mk : Span → SetDef) (st : St) :
    RunR cx (fun s => ∃ sp, s = mk sp) st (nullaryBody cx start mk st) := by
  unfold nullaryBody
  simp only [RunR]
  refine ((run_expectChar cx '(' .expectedOpenParen st).seqRight ((?_ : Run cx True _ _).seqRight
    (run_expectChar cx ')' .expectedCloseParen _))).mono fun _ => ⟨_, rfl, _, rfl⟩
  split
  · exact .advance (takeTill_le _ _)
  · -- the argument starts where the state before it stood and is what `takeTill` took
    refine .report rfl (takeTill_le _ _) fun ha => ?_
    have := takeTill_utf8 (· == ')') (expectChar cx '(' .expectedOpenParen st).rest
    have := pos_add ha; omega

theorem run_parseSetDef {cx : Ctx} {st : St} {r : Option SetDef × St} (h : parseSetDef cx st = some r) : RunR cx (ExprRT.SetOk (MatcherOut cx)) st r := by
  rw [parseSetDef_eq] at h
  obtain ⟨⟨kw, body⟩, hm, ha⟩ := List.exists_of_findSome?_eq_some h
  obtain ⟨rest, hl, rfl⟩ := Option.map_eq_some_iff.mp ha
  refine ((run_skipWs st).seqRight (.advance (r := rest) (lit_le hl))).seqRight ?_
  simp only [setDefAlts, List.mem_append, List.mem_map, List.mem_cons, Prod.mk.injEq, List.not_mem_nil, or_false] at hm
  rcases hm with ⟨⟨n, dm, p⟩, hmem, -, rfl⟩ | ⟨-, rfl⟩ | ⟨-, rfl⟩ | ⟨-, rfl⟩ | ⟨-, rfl⟩
  · refine (run_unaryBody ..).mono fun ⟨s, hs, m, sp, hsm, ho⟩ => ⟨s, hs, ?_⟩
    obtain ⟨-, rfl⟩ := ExprRT.mem_unaryTable.mp hmem
    subst hsm; exact ho
  · exact (run_platformBody ..).mono fun ⟨s, hs, _, _, hsm⟩ => ⟨s, hs, by cases hsm; trivial⟩
  -- `default`, `all`, `none`
  all_goals exact (run_nullaryBody ..).mono fun ⟨s, hs, _, hsm⟩ => ⟨s, hs, by cases hsm; trivial⟩

theorem run_misspelt {name : String} {r : List Char} {k : ErrKind} {n : Nat} (hl : lit name s.rest = some r)
    (hn : n ≤ utf8Len name.toList) : Run cx False s ((s.report k (pos cx s) n).withRest r) := by
  have := congrArg utf8Len (lit_some hl)
  rw [utf8Len_append] at this
  exact (Run.reportHere (p := False) (by omega)).seqLeft (.advance (r := r) (lit_le hl))

theorem run_parseOrOp {cx : Ctx} {st : St} {r : Option OrOp × St} (h : parseOrOp cx st = some r) : Run cx (r.1 ≠ none) st r.2 := by
  unfold parseOrOp at h
  simp only at h
  refine (run_skipWs st).seqRight ?_
  split at h
  · cases h; exact (run_misspelt ‹_› (by decide)).mono False.elim  -- `||`
  · split at h
    · cases h; exact (run_misspelt ‹_› (by decide)).mono False.elim  -- `OR `
    · split at h
      · cases h; exact (Run.advance (lit_le ‹_›)).mono fun _ => nofun  -- `or `
      · split at h
        · cases h; exact (Run.advance (utf8Len_le_of_cons ‹_›)).mono fun _ => nofun  -- `|`
        · cases h; exact (Run.advance (utf8Len_le_of_cons ‹_›)).mono fun _ => nofun  -- `+`
        · cases h

theorem run_parseAndOp {cx : Ctx} {st : St} {r : Option AndDiffOp × St} (h : parseAndOp cx st = some r) : Run cx (r.1 ≠ none) st r.2 := by
  unfold parseAndOp at h
  simp only at h
  refine (run_skipWs st).seqRight ?_
  split at h
  · cases h; exact (run_misspelt ‹_› (by decide)).mono False.elim  -- `&&`
  · split at h
    · cases h; exact (run_misspelt ‹_› (by decide)).mono False.elim  -- `AND `
    · split at h
      · cases h; exact (Run.advance (lit_le ‹_›)).mono fun _ => nofun  -- `and `
      · split at h
        · cases h; exact (Run.advance (utf8Len_le_of_cons ‹_›)).mono fun _ => nofun  -- `&`
        · cases h; exact (Run.advance (utf8Len_le_of_cons ‹_›)).mono fun _ => nofun  -- `-`
        · cases h

theorem combineOr_yields {R : PExpr → Prop} {a b : ERes} {op : Option OrOp} (hR : ∀ o x y, R x → R y → R (.union o x y))
    (ha : Yields R a) (ho : op ≠ none) (hb : Yields R b) : Yields R (combineOr a op b) := by
  obtain ⟨x, rfl, hx⟩ := ha; obtain ⟨y, rfl, hy⟩ := hb
  cases op with
  | none => exact absurd rfl ho
  | some o => exact ⟨_, rfl, hR o x y hx hy⟩

theorem combineAnd_yields {R : PExpr → Prop} {a b : ERes} {op : Option AndDiffOp} (hi : ∀ o x y, R x → R y → R (.inter o x y))
    (hd : ∀ x y, R x → R y → R (.diff x y)) (ha : Yields R a) (ho : op ≠ none) (hb : Yields R b) : Yields R (combineAnd a op b) := by
  obtain ⟨x, rfl, hx⟩ := ha; obtain ⟨y, rfl, hy⟩ := hb
  cases op with
  | none => exact absurd rfl ho
  | some o => cases o with
    | and o => exact ⟨_, rfl, hi o x y hx hy⟩
    | diff => exact ⟨_, rfl, hd x y hx hy⟩

theorem run_fuel : Run cx p s (s.report .outOfFuel 0 0) := .report rfl (Nat.le_refl _) fun _ => Nat.zero_le _

/-- a loop is good if it keeps a good accumulator good -/
theorem run_expr (cx : Ctx) (f : Nat) :
    (∀ st, RunR cx (SetsOut cx) st (parseExpr cx f st)) ∧
    (∀ acc st, Run cx (Yields (SetsOut cx) acc → Yields (SetsOut cx) (orLoop cx f acc st).1) st (orLoop cx f acc st).2) ∧
    (∀ st, RunR cx (SetsOut cx) st (parseAndOr cx f st)) ∧
    (∀ acc st, Run cx (Yields (SetsOut cx) acc → Yields (SetsOut cx) (andLoop cx f acc st).1) st (andLoop cx f acc st).2) ∧
    (∀ st, RunR cx (SetsOut cx) st (basicOrMissing cx f st)) ∧
    (∀ st r, parseBasic cx f st = some r → RunR cx (SetsOut cx) st r) := by
  induction f with
  | zero =>
    refine ⟨?_, ?_, ?_, ?_, ?_, ?_⟩
    · intro st; exact run_fuel
    · intro acc st; exact run_fuel
    · intro st; exact run_fuel
    · intro acc st; exact run_fuel
    · intro st; exact run_fuel
    · intro st r hr; cases hr; exact run_fuel
  | succ f ih =>
    obtain ⟨iE, iO, iA, iL, iB, iP⟩ := ih
    refine ⟨?_, ?_, ?_, ?_, ?_, ?_⟩
    · intro st
      simp only [parseExpr]
      exact ((iA st).trans (iO _ _)).mono fun h => h.2 h.1
    · intro acc st
      simp only [orLoop]
      split
      · exact Run.refl.mono fun _ h => h
      · rename_i op st1 hop
        exact ((run_parseOrOp hop).trans ((iA st1).trans (iO _ _))).mono fun ⟨ho, he, hl⟩ ha =>
          hl (combineOr_yields (fun _ _ _ hx hy => ⟨hx, hy⟩) ha ho he)
    · intro st
      simp only [parseAndOr]
      exact ((iB st).trans (iL _ _)).mono fun h => h.2 h.1
    · intro acc st
      simp only [andLoop]
      split
      · exact Run.refl.mono fun _ h => h
      · rename_i op st1 hop
        exact ((run_parseAndOp hop).trans ((iB st1).trans (iL _ _))).mono fun ⟨ho, he, hl⟩ ha =>
          hl (combineAnd_yields (fun _ _ _ hx hy => ⟨hx, hy⟩) (fun _ _ hx hy => ⟨hx, hy⟩) ha ho he)
    · intro st
      simp only [basicOrMissing]
      split
      · exact iP st _ ‹_›
      · exact .reportHere (Nat.le_refl _)
    · intro st r hr
      refine (run_skipWs st).seqRight ?_
      rcases parseBasic_some hr with ⟨s, st1, hs, rfl⟩ | ⟨op, rest, hle, rfl⟩ | ⟨rest, hc, rfl⟩
      · exact (run_parseSetDef hs).mono fun h => h.map fun _ hx => hx
      · exact ((Run.advance hle).seqRight (iB _)).mono fun h => h.map fun _ hx => hx
      · exact ((Run.advance (utf8Len_le_of_cons hc)).seqRight ((iE _).seqLeft (run_expectChar ..))).mono fun h => h.map fun _ hx => hx

theorem run_parseTop (cx : Ctx) (input : List Char) :
    RunR cx (SetsOut cx) { rest := input, errs := [], needs := [] } (parseTop cx input) := by
  unfold parseTop
  -- first of all: with the concrete fuel in the goal the unifier would unfold `parseExpr`
  generalize fuelFor input = f
  have h := (run_expr cx f).1 { rest := input, errs := [], needs := [] }
  simp only
  split
  · exact h.seqLeft (.advance (Nat.zero_le _))
  · exact h.seqRight (.reportHere (Nat.le_refl _))

/-- (`Inside` is left folded and `cx` general: against the unfolded statement for `mkCtx` the unifier unfolds the parser) -/
theorem parseTop_inside (cx : Ctx) (input : List Char) (h : utf8Len input ≤ cx.total) : Inside cx (parseTop cx input).2 :=
  (run_parseTop cx input).inside h nofun

theorem parseTop_quiet (cx : Ctx) (input : List Char) (h : (parseTop cx input).2.errs = []) :
    Yields (SetsOut cx) (parseTop cx input).1 :=
  Classical.byContradiction fun hn => by have := (run_parseTop cx input).errs.2 hn; simp [h] at this

end NextestModel.Syntax
