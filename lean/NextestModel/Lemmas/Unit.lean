/-
  Lemmas on the unit model (Model/Unit): its clocks, what the passage of time does (`elapse`, `nextDue`, `advance`), that the
  attempt's stopwatch never runs backwards, runs in which nothing but time passes, and how an arm table is evaluated.
  A theorem about `advance` says which way it goes by `advance_of_lt` / `advance_of_le` (`advance_cases` where either may happen)
  and then evaluates `elapse` / `fire` in its phase; only a `run` over a literal event list is evaluated as a whole.
-/
import NextestModel.Model.Unit
namespace NextestModel.Unit

@[simp] theorem Watch.tick_paused (w : Watch) (d : Nat) : (w.tick d).paused = w.paused := by
  unfold Watch.tick
  split <;> rfl

@[simp] theorem Timer.tick_paused (t : Timer) (d : Nat) : (t.tick d).paused = t.paused := by
  unfold Timer.tick
  split <;> rfl

theorem Watch.le_tick (w : Watch) (d : Nat) : w.active ≤ (w.tick d).active := by
  unfold Watch.tick
  split <;> simp

theorem Watch.tick_tick (w : Watch) (a b : Nat) : (w.tick a).tick b = w.tick (a + b) := by
  cases h : w.paused <;> simp [Watch.tick, h, Nat.add_assoc]

theorem Timer.tick_tick (t : Timer) (a b : Nat) : (t.tick a).tick b = t.tick (a + b) := by
  cases h : t.paused <;> simp [Timer.tick, h, Nat.sub_sub]

theorem Timer.tick_le (t : Timer) (d : Nat) : (t.tick d).remaining ≤ t.remaining := by
  unfold Timer.tick
  split <;> simp

theorem Timer.tick_pos {t : Timer} {d : Nat} (hd : ∀ n, t.due = some n → d < n) (h : 0 < t.remaining) : 0 < (t.tick d).remaining := by
  cases hp : t.paused <;> simp [Timer.tick, Timer.due, hp] at hd ⊢
  · exact Nat.sub_pos_of_lt hd
  · exact h

theorem Timer.due_tick (t : Timer) (d : Nat) : (t.tick d).due = t.due.map (· - d) := by
  cases h : t.paused <;> simp [Timer.due, Timer.tick, h]

theorem tick_sum {w : Watch} {t : Timer} {d : Nat} (hp : w.paused = t.paused) (hd : ∀ n, t.due = some n → d ≤ n) :
    (w.tick d).active + (t.tick d).remaining = w.active + t.remaining := by
  cases h : t.paused <;> simp [Watch.tick, Timer.tick, Timer.due, hp, h] at hd ⊢
  omega

@[simp] theorem elapse_zero (u : U) : elapse u 0 = u := by
  unfold elapse
  split <;> simp [Watch.tick, Timer.tick]

@[simp] theorem elapse_phase (u : U) (d : Nat) : (elapse u d).phase = u.phase := by
  unfold elapse
  split <;> simp [*]

theorem elapse_add (u : U) (a b : Nat) : elapse (elapse u a) b = elapse u (a + b) := by
  cases h : u.phase <;> simp [elapse, h, Watch.tick_tick, Timer.tick_tick]
  -- left: the clocks that tick under a condition (the interval sleep unless timed out, the leak timer unless paused)
  all_goals split <;> simp [*, Timer.tick_tick, Nat.sub_sub]

theorem nextDue_elapse (u : U) (d : Nat) : nextDue (elapse u d) = (nextDue u).map (· - d) := by
  cases h : u.phase <;> simp [nextDue, elapse, h, Timer.due_tick]
  all_goals split <;> simp [*, Timer.due_tick]

theorem advance_of_lt {c : Cfg} {u : U} {dt : Nat} (h : ∀ n, nextDue u = some n → dt < n) : advance c u dt = (elapse u dt, []) := by
  unfold advance
  split
  · rfl
  · next n hn => rw [if_pos (h n hn)]

theorem advance_of_le {c : Cfg} {u : U} {n dt : Nat} (h : nextDue u = some n) (hle : n ≤ dt) : advance c u dt = fire c (elapse u n) := by
  simp [advance, h, Nat.not_lt.mpr hle]

theorem advance_cases (c : Cfg) (u : U) (dt : Nat) :
    ((∀ n, nextDue u = some n → dt < n) ∧ advance c u dt = (elapse u dt, [])) ∨
    ∃ n, nextDue u = some n ∧ advance c u dt = fire c (elapse u n) := by
  by_cases h : ∀ n, nextDue u = some n → dt < n
  · exact .inl ⟨h, advance_of_lt h⟩
  · simp only [Classical.not_forall, Nat.not_lt] at h
    obtain ⟨n, hn, hle⟩ := h
    exact .inr ⟨n, hn, advance_of_le hn hle⟩

/- The case analyses by `fun_cases` follow the clauses of `onReq`, `elapse`, `fire`, `advance` and `step` as the model writes them.
   For a function whose `match` has a catch-all clause (`onReq`, `step`) Lean leaves auxiliary constants
   (`onReq.match_1.congr_eq_1._sparseCasesOn_4`) in the module that first asks for the case principle, and two modules that have
   each asked cannot be imported together ("environment already contains …"); so it is asked for here first, in the module every
   theorem file about the unit imports. -/

theorem beginTerminate_sw (c : Cfg) (u : U) (why : Why) (sig : Sig) : (beginTerminate c u why sig).1.sw = u.sw := by
  unfold beginTerminate
  split <;> rfl

theorem onReq_sw_active (c : Cfg) (u : U) (r : Req) : (onReq c u r).1.sw.active = u.sw.active := by
  fun_cases onReq c u r <;> simp [beginTerminate_sw]

theorem sw_le_elapse (u : U) (d : Nat) : u.sw.active ≤ (elapse u d).sw.active := by
  fun_cases elapse u d <;> simp [Watch.le_tick]

theorem fire_sw (c : Cfg) (u : U) : (fire c u).1.sw = u.sw := by
  fun_cases fire c u
  -- the interval fires for the last time: the state is what `beginTerminate` returns (`hb`)
  case case1 u2 a hb => exact (congrArg (·.1.sw) hb).symm.trans (beginTerminate_sw ..)
  all_goals rfl

theorem sw_le_step (c : Cfg) (u : U) (e : Ev) : u.sw.active ≤ (step c u e).1.sw.active := by
  fun_cases step c u e
  case case1 r => exact Nat.le_of_eq (onReq_sw_active c u r).symm                -- `.req r`
  case case2 dt => fun_cases advance c u dt <;> simp [fire_sw, sw_le_elapse]    -- `.time dt`
  -- `.childExit`, `.fdsDone`: only the phase and the leak timer change
  all_goals simp

theorem sw_le_run (c : Cfg) : ∀ (es : List Ev) (u : U), u.sw.active ≤ (run c u es).1.sw.active
  | [], _ => Nat.le_refl _
  | e :: es, u => Nat.le_trans (sw_le_step c u e) (sw_le_run c es _)

theorem run_append (c : Cfg) : ∀ (es fs : List Ev) (u : U),
    run c u (es ++ fs) = ((run c (run c u es).1 fs).1, (run c u es).2 ++ (run c (run c u es).1 fs).2)
  | [], _, _ => by simp [run]
  | e :: es, fs, u => by simp only [List.cons_append, run, run_append c es, List.append_assoc]

/-- nothing but time passes and no timer runs out: the pieces add up -/
theorem run_time_lt (c : Cfg) : ∀ (dts : List Nat) (u : U), (∀ n, nextDue u = some n → dts.sum < n) →
    run c u (dts.map .time) = (elapse u dts.sum, [])
  | [], u, _ => by simp [run]
  | d :: ds, u, h => by
    rw [List.sum_cons] at h
    have h1 : advance c u d = (elapse u d, []) := advance_of_lt fun n hn => Nat.lt_of_le_of_lt (Nat.le_add_right ..) (h n hn)
    have h2 := run_time_lt c ds (elapse u d) fun n hn => by
      rw [nextDue_elapse] at hn
      obtain ⟨m, hm, rfl⟩ := Option.map_eq_some_iff.mp hn
      have := h m hm
      omega
    simp [run, step, h1, h2, elapse_add]

theorem run_time_done (c : Cfg) {u : U} (h : u.phase = .done) (dts : List Nat) : run c u (dts.map .time) = (u, []) := by
  rw [run_time_lt c dts u (by simp [nextDue, h])]
  simp [elapse, h]

/-- nothing but time passes, against a timer whose expiry ends the unit: the pieces matter only through their sum.  (Were the unit
    to go on, the rest of the time would run against the next phase's timer.  `dts ≠ []`: a timer that is due at once fires only
    when a time event arrives, were it of length 0.) -/
theorem run_time_ending (c : Cfg) : ∀ (dts : List Nat) (u : U) (n : Nat), nextDue u = some n → (fire c (elapse u n)).1.phase = .done →
    run c u (dts.map .time) = if dts ≠ [] ∧ n ≤ dts.sum then fire c (elapse u n) else (elapse u dts.sum, [])
  | [], u, n, _, _ => by simp [run]
  | d :: ds, u, n, hn, hdone => by
    have hs : (d :: ds).sum = d + ds.sum := List.sum_cons
    simp only [List.map_cons, run, step]
    by_cases hd : d < n
    · -- not yet: the rest of the time runs against what is left of the timer
      have e : elapse (elapse u d) (n - d) = elapse u n := by
        rw [elapse_add, Nat.add_sub_cancel' (Nat.le_of_lt hd)]
      have hc : (ds ≠ [] ∧ n - d ≤ ds.sum) ↔ (d :: ds ≠ [] ∧ n ≤ (d :: ds).sum) := by
        cases ds <;> simp <;> omega
      have hadv : advance c u d = (elapse u d, []) := advance_of_lt fun m hm => by
        rw [hn] at hm
        cases hm
        exact hd
      have ih := run_time_ending c ds (elapse u d) (n - d) (by simp [nextDue_elapse, hn]) (e ▸ hdone)
      rw [hadv, ih, e, elapse_add, ← hs]
      simp only [hc, List.nil_append]
    · rw [advance_of_le hn (by omega), run_time_done c hdone, if_pos ⟨List.cons_ne_nil _ _, by omega⟩]
      simp

/-- How an arm read from the source is evaluated.  First `simp only [interpArm_eq, Gen.<arm>, List.foldl_cons, List.foldl_nil]`
    unfolds the fold over the arm's rows while `applyX` / `guardX` are still closed; then `simp [applyX, guardX, …]` evaluates
    from the inside out, row by row, on a state that is still small, and decides each `if a = "…"` by its own procedure for string
    literals.  In one call `simp` would open the `if` chains of `applyX` / `guardX` under the fold's `fun`, for an unknown name,
    again at every row; `decide` or `rfl` would have the kernel run `String.decEq` character by character.
    A flag that a guard reads is made a variable first (`obtain ⟨…⟩ := u`), so that `cases` on it fills it in everywhere. -/
theorem interpArm_eq (apply : U → String → U × List Act) (guard : U → String → Bool) (arm : List (String × List String)) (u : U) :
    interpArm apply guard arm u =
      arm.foldl (fun acc row =>
        if guard acc.1 row.1 then
          row.2.foldl (fun acc2 a => ((apply acc2.1 a).1, acc2.2 ++ (apply acc2.1 a).2)) acc
        else acc) (u, []) := rfl

end NextestModel.Unit
